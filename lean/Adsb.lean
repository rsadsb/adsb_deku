import Adsb.Print
import Adsb.Theorems.C01
import Adsb.Theorems.C02
import Adsb.Theorems.C03
import Adsb.Theorems.C03b
import Adsb.Theorems.C04
import Adsb.Theorems.C05
import Adsb.Theorems.C05b
import Adsb.Theorems.C05c
import Adsb.Theorems.C05d
import Adsb.Theorems.C06
import Adsb.Theorems.C06b
import Adsb.Theorems.C07
import Adsb.Theorems.C07b
import Adsb.Theorems.C07c
import Adsb.Theorems.C08
import Adsb.Theorems.C09
import Adsb.Theorems.C10
import Adsb.Theorems.C10b
import Adsb.Theorems.C11
import Adsb.Theorems.C12
import Adsb.Theorems.C12b
import Adsb.Theorems.C13
import Adsb.Theorems.C13b
import Adsb.Theorems.C14
import Adsb.Theorems.C15
import Adsb.Theorems.C16
import Adsb.Theorems.C17
import Adsb.Theorems.C18
import Adsb.Theorems.C18b
import Adsb.Theorems.C19
import Adsb.Theorems.C20
/-! The whole development: the model (through `Adsb.Print`, what the driver executable links) and every property module, so that a
plain `lake build` checks every proof. The checks build the modules of one property at a time (`tools/props.py`). -/
