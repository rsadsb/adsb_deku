/-! # Bits: buffers and MSB-first bit fields

`Buf` is the byte string handed to `Frame::from_bytes`. Bit 0 is the most significant bit of
byte 0 (Annex 10 calls it "bit 1"). `bitsAt B off w` is the `w`-bit field starting at bit `off`,
most significant bit first; bits past the end of the buffer read as 0 (every reader guards the
length before using them). -/

namespace Adsb

structure Buf where
  bytes : List UInt8
  deriving Repr

def Buf.len (B : Buf) : Nat := B.bytes.length

def Buf.bit (B : Buf) (i : Nat) : Bool :=
  (B.bytes.getD (i / 8) 0).toNat.testBit (7 - i % 8)

def bitsAt (B : Buf) (off : Nat) : Nat → Nat
  | 0 => 0
  | w + 1 => 2 * bitsAt B off w + (B.bit (off + w)).toNat

/-- `k` whole bytes in little-endian order, then `r` more bits on top -/
def leGo (B : Buf) (off r : Nat) : Nat → Nat
  | 0 => bitsAt B off r
  | k + 1 => bitsAt B off 8 + 256 * leGo B (off + 8) r k

/-- deku's little-endian rule for an `n`-bit field without `endian = "big"` (only differs from
`bitsAt` for `n > 8`): whole bytes in little-endian order, the trailing partial byte on top. -/
def leBitsAt (B : Buf) (off n : Nat) : Nat := leGo B off (n % 8) (n / 8)

theorem bitsAt_lt (B : Buf) (off w : Nat) : bitsAt B off w < 2 ^ w := by
  induction w with
  | zero => simp [bitsAt]
  | succ w ih =>
    simp only [bitsAt]
    have : (B.bit (off + w)).toNat ≤ 1 := Bool.toNat_le _
    rw [Nat.pow_succ]; omega

theorem bitsAt_congr' {B B' : Buf} (off w : Nat) (h : ∀ i, off ≤ i → i < off + w → B.bit i = B'.bit i) :
    bitsAt B off w = bitsAt B' off w := by
  induction w with
  | zero => rfl
  | succ w ih =>
    simp only [bitsAt]
    rw [ih (fun i h1 h2 => h i h1 (by omega)), h (off + w) (by omega) (by omega)]

section
variable {B B' : Buf} {n : Nat} (h : ∀ i, i < n → B.bit i = B'.bit i)
include h

theorem bitsAt_congr {off w : Nat} (hw : off + w ≤ n) : bitsAt B off w = bitsAt B' off w :=
  bitsAt_congr' off w fun i _ hi => h i (by omega)

theorem leGo_congr (r k off : Nat) (hw : off + 8 * k + r ≤ n) : leGo B off r k = leGo B' off r k := by
  induction k generalizing off with
  | zero => exact bitsAt_congr h (by omega)
  | succ k ih => simp only [leGo]; rw [bitsAt_congr h (by omega), ih (off + 8) (by omega)]

theorem leBitsAt_congr {off w : Nat} (hw : off + w ≤ n) : leBitsAt B off w = leBitsAt B' off w :=
  leGo_congr h _ _ off (by omega)

end

def hexDigit (n : Nat) : Char :=
  if n < 10 then Char.ofNat (48 + n) else Char.ofNat (87 + n)

/-- `w` lower-case hex digits of `n`, most significant first -/
def toHex (n : Nat) : Nat → List Char
  | 0 => []
  | w + 1 => toHex (n / 16) w ++ [hexDigit (n % 16)]

def hexStr (n w : Nat) : String := String.ofList (toHex n w)

def hexVal (c : Char) : Option Nat :=
  if '0' ≤ c ∧ c ≤ '9' then some (c.toNat - 48)
  else if 'a' ≤ c ∧ c ≤ 'f' then some (c.toNat - 87)
  else if 'A' ≤ c ∧ c ≤ 'F' then some (c.toNat - 55)
  else none

def parseHexBytes : List Char → Option (List UInt8)
  | [] => some []
  | [_] => none
  | a :: b :: rest => do
    let x ← hexVal a
    let y ← hexVal b
    let r ← parseHexBytes rest
    pure (UInt8.ofNat (16 * x + y) :: r)

end Adsb
