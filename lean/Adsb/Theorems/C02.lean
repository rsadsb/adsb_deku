import Adsb.Lemmas.Congr
/-! # C02 — format recognition, frame-length discipline, acceptance set -/

namespace Adsb.C02

/-- **the acceptance set**: `decode` succeeds exactly on `Accept`: a supported format code, at least
`frameLen` bytes, and — the only other rejection — an operational status (type 31, subtype 0/1) payload
outside the version 0–2 layout. -/
theorem accept_iff (B : Buf) : (∃ f, decode B = .ok f) ↔ Accept B := by
  constructor
  · rintro ⟨f, h⟩; exact decode_ok_accept B f h
  · intro h; obtain ⟨L, _, _, hd⟩ := decode_accept B h; exact ⟨_, hd⟩

/-- formats 0, 4, 5, 11 are 56-bit frames; 16–21 and 24–31 are 112-bit frames; the rest is rejected -/
theorem frame_lengths : ∀ id, id < 32 →
    ((id = 0 ∨ id = 4 ∨ id = 5 ∨ id = 11) → frameLen id = some 7) ∧
    (((16 ≤ id ∧ id ≤ 21) ∨ (24 ≤ id ∧ id ≤ 31)) → frameLen id = some 14) ∧
    (((1 ≤ id ∧ id ≤ 3) ∨ (6 ≤ id ∧ id ≤ 10) ∨ (12 ≤ id ∧ id ≤ 15) ∨ id = 22 ∨ id = 23) → frameLen id = none) := by
  decide +kernel

theorem unsupported_format_rejected (B : Buf) (h : frameLen (bitsAt B 0 5) = none) : ∀ f, decode B ≠ .ok f := by
  intro f hf
  obtain ⟨L, hL, _⟩ := decoded B f hf
  rw [h] at hL; cases hL

/-- a buffer shorter than its format's frame is never decoded (neither partially nor with a checksum) -/
theorem short_buffer_rejected (B : Buf) (L : Nat) (hL : frameLen (bitsAt B 0 5) = some L) (hs : B.len < L) :
    ∀ f, decode B ≠ .ok f := by
  intro f hf
  obtain ⟨L', hL', hlen, _⟩ := decoded B f hf
  rw [hL] at hL'; cases hL'; omega

/-- the rejected operational status payloads are exactly those outside the version 0–2 layout -/
theorem only_other_rejection (B : Buf) (L : Nat) (hL : frameLen (bitsAt B 0 5) = some L) (hlen : L ≤ B.len) :
    (∀ f, decode B ≠ .ok f) ↔
      ((bitsAt B 0 5 = 17 ∨ bitsAt B 0 5 = 18) ∧ bitsAt B 32 5 = 31 ∧
        ((bitsAt B 37 3 = 0 ∧ ¬ opAirOk B 40) ∨ (bitsAt B 37 3 = 1 ∧ ¬ opSurfOk B 40))) := by
  rw [← not_exists, accept_iff, Accept_iff]
  simp only [hL, Option.some.injEq, exists_eq_left', hlen, true_and, meOk, opOk, Classical.not_imp, Classical.not_and_iff_not_or_not]

/-- the operational status acceptance conditions, spelled out -/
theorem opstatus_layout (B : Buf) :
    (opAirOk B 40 ↔ bitsAt B 40 2 = 0 ∧ bitsAt B 44 2 = 0 ∧ bitsAt B 56 2 = 0 ∧ bitsAt B 72 3 ≤ 2) ∧
    (opSurfOk B 40 ↔ bitsAt B 40 2 = 0 ∧ bitsAt B 56 2 = 0 ∧ bitsAt B 72 3 ≤ 2) := by
  constructor <;> rfl

/-- the checksum window is exactly the first `L` bytes of the buffer -/
theorem checksum_window (B : Buf) (f : Frame) (h : decode B = .ok f) :
    ∃ L, frameLen (bitsAt B 0 5) = some L ∧ L ≤ B.len ∧ f.crc = crcVal (B.bytes.take L) L := by
  obtain ⟨L, hL, hlen, rfl⟩ := decoded B f h
  have := frameLen_ge _ _ hL
  exact ⟨L, hL, hlen, (crcVal_take B.bytes L L (by omega) (Nat.le_refl _)).symm⟩

/-! ## bytes after the frame never influence the result -/

/-- **trailing bytes are irrelevant**: a buffer that holds a whole frame decodes exactly like the frame alone -/
theorem trailing_bytes_irrelevant (b e : List UInt8) (L : Nat) (hL : frameLen (bitsAt (Buf.mk b) 0 5) = some L)
    (hlen : L ≤ b.length) (f : Frame) :
    decode (Buf.mk (b ++ e)) = .ok f ↔ decode (Buf.mk b) = .ok f := by
  have := frameLen_ge _ _ hL
  exact (decode_congr hL hlen (by show L ≤ (b ++ e).length; rw [List.length_append]; omega)
    (fun i hi => (bit_append b e i (by omega)).symm) (crcVal_append b e L (by omega) hlen).symm f).symm

/-! ## non-vacuity (tests) -/
example : Accept ⟨[0x8d, 0xa2, 0xc1, 0xbd, 0x58, 0x7b, 0xa2, 0xad, 0xb3, 0x17, 0x99, 0xcb, 0x80, 0x2b]⟩ := by decide +kernel
example : ¬ Accept ⟨[0x9d, 0xab, 0xcd, 0xef, 0x5e, 0xd4, 0xa7, 0xab, 0x73, 0x73]⟩ := by decide +kernel   -- truncated DF19 (was accepted before the repair)
example : ¬ Accept ⟨[0x8d, 0xa2, 0xc1, 0xbd, 0xf8, 0x7b, 0xa2, 0xad, 0xb3, 0xf7, 0x99, 0xcb, 0x80, 0x2b]⟩ := by decide +kernel   -- TC31/0 with version 7

end Adsb.C02
