import Adsb.Lemmas.Reject
import Adsb.Velocity
import Adsb.Spec.Fields
/-! # C07 — airborne velocity: fields and derived components, vertical rate, difference -/

namespace Adsb.C07
open Adsb.Spec

/-- the decoded type-19 payload consists of the standard's bit fields -/
theorem velocity_fields (B : Buf) :
    velAt B = { st := ST.ofME B, nacv := ICIFRNAC.ofME B, sub := velSubAt B (ST.ofME B) 45,
                vrateSrc := VRSRC.ofME B, vrateSign := VRSIGN.ofME B, vrate := VR.ofME B, reserved := bitsAt B 78 2,
                gnssSign := DIFSIGN.ofME B, gnssDiff := if DIF.ofME B > 1 then (DIF.ofME B - 1) * 25 else 0 } := rfl

/-- the standard's 3-bit NACv is the low three bits of the repo's 5-bit group (IC, IFR, NACv) -/
theorem nacv_low3 (B : Buf) : NACV.ofME B = ICIFRNAC.ofME B % 8 := by
  show bitsAt B 42 3 = bitsAt B 40 5 % 8
  simp only [bitsAt, Nat.reduceAdd, Nat.add_zero, Nat.mul_zero, Nat.zero_add]
  have h42 := Bool.toNat_le (B.bit 42)
  have h43 := Bool.toNat_le (B.bit 43)
  have h44 := Bool.toNat_le (B.bit 44)
  omega

/-- ground-speed subtypes (1, 2): direction bits and 10-bit components; airspeed subtypes (3, 4): heading status,
heading, airspeed type and airspeed raw−1 (0 for "no information") -/
theorem subtype_fields (B : Buf) :
    ((ST.ofME B = 1 ∨ ST.ofME B = 2) → velSubAt B (ST.ofME B) 45 = .ground (DEW.ofME B) (VEW.ofME B) (DNS.ofME B) (VNS.ofME B)) ∧
    ((ST.ofME B = 3 ∨ ST.ofME B = 4) → velSubAt B (ST.ofME B) 45 =
        .airspeed (HDGST.ofME B) (HDG.ofME B) (ASTYPE.ofME B) (if AS.ofME B > 0 then AS.ofME B - 1 else 0)) := by
  constructor <;> rintro (c | c) <;> (rw [c]; rfl)

theorem calc_ground (v : Vel) (a b c d : Nat) (hs : v.sub = .ground a b c d) :
    v.calc = if b = 0 ∨ d = 0 ∨ v.vrate = 0 then none else
      some { vEw := ((b : Int) - 1) * (if v.st = 2 then 4 else 1) * signOf a,
             vNs := ((d : Int) - 1) * (if v.st = 2 then 4 else 1) * signOf c,
             vrate := ((v.vrate : Int) - 1) * 64 * signOf v.vrateSign } := by
  unfold Vel.calc
  rw [hs]
  by_cases h1 : b = 0 <;> by_cases h2 : d = 0 <;> by_cases h3 : v.vrate = 0 <;> simp [h1, h2, h3]

/-- **components**: (raw−1) kt, ×4 for the supersonic subtype, signed by the direction bits;
**vertical rate**: (raw−1)·64 ft/min signed; all three exact -/
theorem components (v : Vel) (ews ewv nss nsv : Nat) (hs : v.sub = .ground ews ewv nss nsv)
    (h1 : ewv ≠ 0) (h2 : nsv ≠ 0) (h3 : v.vrate ≠ 0) :
    v.calc = some { vEw := ((ewv : Int) - 1) * (if v.st = 2 then 4 else 1) * (if ews = 0 then 1 else -1),
                    vNs := ((nsv : Int) - 1) * (if v.st = 2 then 4 else 1) * (if nss = 0 then 1 else -1),
                    vrate := ((v.vrate : Int) - 1) * 64 * (if v.vrateSign = 0 then 1 else -1) } := by
  rw [calc_ground v _ _ _ _ hs, if_neg (by simp [h1, h2, h3])]
  rfl

/-- **no derived velocity** exactly when the report is not a ground-speed subtype or a velocity / rate field is 0 -/
theorem none_iff (v : Vel) :
    v.calc = none ↔ ((∀ a b c d, v.sub ≠ .ground a b c d) ∨ (∃ a b c d, v.sub = .ground a b c d ∧ (b = 0 ∨ d = 0 ∨ v.vrate = 0))) := by
  cases hs : v.sub with
  | ground a b c d =>
    rw [calc_ground v a b c d hs]
    constructor
    · intro h
      split at h
      · next hz => exact Or.inr ⟨a, b, c, d, rfl, hz⟩
      · cases h
    · rintro (h | ⟨_, _, _, _, he, hz⟩)
      · exact absurd rfl (h a b c d)
      · cases he; exact if_pos hz
  | _ => simp [Vel.calc, hs]

theorem signOf_cases (s : Nat) : signOf s = 1 ∨ signOf s = -1 := by unfold signOf; split <;> simp

theorem velSubAt_ground {B : Buf} {st bp a b c d : Nat} (h : velSubAt B st bp = .ground a b c d) :
    a = bitsAt B bp 1 ∧ b = bitsAt B (bp + 1) 10 ∧ c = bitsAt B (bp + 11) 1 ∧ d = bitsAt B (bp + 12) 10 := by
  unfold velSubAt at h
  by_cases h0 : st = 0
  · rw [if_pos h0] at h; cases h
  · by_cases h2 : st ≤ 2
    · rw [if_neg h0, if_pos h2] at h; cases h; exact ⟨rfl, rfl, rfl, rfl⟩
    · rw [if_neg h0, if_neg h2] at h; split at h <;> cases h

/-- the three `i16` results of one component: `m`, `m * k` (the scale), `m * k * s` (the sign) -/
theorem i16_steps {m k s : Int} (hm : -1 ≤ m) (hk : k = 1 ∨ k = 4 ∨ k = 64) (hmk : m * k ≤ 32767) (hs : s = 1 ∨ s = -1) :
    (-32768 ≤ m ∧ m ≤ 32767) ∧ (-32768 ≤ m * k ∧ m * k ≤ 32767) ∧ (-32768 ≤ m * k * s ∧ m * k * s ≤ 32767) := by
  have h : m ≤ 32767 ∧ -64 ≤ m * k := by rcases hk with rfl | rfl | rfl <;> omega
  obtain ⟨h1, h2⟩ := h
  generalize m * k = x at *
  rcases hs with rfl | rfl <;> omega

/-- … of a velocity component: raw field `n` (10 bits), scale 1 or 4 by subtype, sign `s` -/
theorem comp_steps (st s : Nat) {n : Nat} (hn : n < 1024) :
    (-32768 ≤ (n : Int) - 1 ∧ (n : Int) - 1 ≤ 32767) ∧
    (-32768 ≤ ((n : Int) - 1) * (if st = 2 then 4 else 1) ∧ ((n : Int) - 1) * (if st = 2 then 4 else 1) ≤ 32767) ∧
    (-32768 ≤ ((n : Int) - 1) * (if st = 2 then 4 else 1) * signOf s ∧ ((n : Int) - 1) * (if st = 2 then 4 else 1) * signOf s ≤ 32767) :=
  i16_steps (by omega) (by split; exact Or.inr (Or.inl rfl); exact Or.inl rfl) (by split <;> omega) (signOf_cases s)

/-- the vertical rate fits the `i16` result and the code's arithmetic never overflows, for every decoded report -/
theorem calc_no_overflow (v : Vel) (h1 : v.vrate < 512) (hs : ∀ a b c d, v.sub = .ground a b c d → b < 1024 ∧ d < 1024) :
    v.calcR = .ok v.calc := by
  unfold Vel.calcR Vel.calc
  cases hsub : v.sub with
  | ground a b c d =>
    obtain ⟨hb, hd⟩ := hs a b c d hsub
    dsimp only
    by_cases hz : b = 0 ∨ d = 0
    · rw [if_pos hz, if_pos hz]
    · obtain ⟨r1, r2, r3⟩ := comp_steps v.st a hb
      obtain ⟨r4, r5, r6⟩ := comp_steps v.st c hd
      rw [if_neg hz, if_neg hz, if_pos r1, Res.ok_bind, if_pos r2, Res.ok_bind, if_pos r3, Res.ok_bind, if_pos r4, Res.ok_bind, if_pos r5, Res.ok_bind, if_pos r6, Res.ok_bind]
      by_cases hv : v.vrate = 0
      · rw [if_pos hv, if_pos hv]; rfl
      · obtain ⟨_, r7, r8⟩ := i16_steps (m := (v.vrate : Int) - 1) (k := 64) (by omega) (Or.inr (Or.inr rfl)) (by omega) (signOf_cases v.vrateSign)
        rw [if_neg hv, if_neg hv, if_neg (by omega), if_pos r7, Res.ok_bind, if_pos r8, Res.ok_bind]; rfl
  | _ => rfl

/-- |vertical rate| ≤ 32640 ft/min -/
theorem vrate_range (v : Vel) (r : Velocity) (h1 : v.vrate < 512) (h : v.calc = some r) : -32640 ≤ r.vrate ∧ r.vrate ≤ 32640 := by
  cases hs : v.sub with
  | ground a b c d =>
    rw [calc_ground v a b c d hs] at h
    split at h
    · cases h
    · cases h; rcases signOf_cases v.vrateSign with e | e <;> simp only [e] <;> omega
  | _ => simp [Vel.calc, hs] at h

/-- sign and zero of one component `(n − 1) * k * signOf s` (`n` = the raw field, not 0; `k` = the scale > 0) -/
theorem comp_sign {n : Nat} {k : Int} (hn : n ≠ 0) (hk : 0 < k) (s : Nat) :
    (s = 0 → 0 ≤ ((n : Int) - 1) * k * signOf s) ∧ (s ≠ 0 → ((n : Int) - 1) * k * signOf s ≤ 0) ∧
    (((n : Int) - 1) * k * signOf s = 0 ↔ n = 1) := by
  have hm : (0 : Int) ≤ (n : Int) - 1 ∧ ((n : Int) - 1 = 0 ↔ n = 1) := by omega
  generalize (n : Int) - 1 = m at hm
  have h0 : 0 ≤ m * k := Int.mul_nonneg hm.1 (Int.le_of_lt hk)
  have hz : m * k = 0 ↔ n = 1 :=
    Iff.trans ⟨fun h => (Int.mul_eq_zero.mp h).elim id (fun h => absurd h (Int.ne_of_gt hk)), fun h => by rw [h, Int.zero_mul]⟩ hm.2
  unfold signOf
  split
  · next h => rw [Int.mul_one]; exact ⟨fun _ => h0, fun h' => absurd h h', hz⟩
  · next h => rw [Int.mul_neg, Int.mul_one]; exact ⟨fun h' => absurd h' h, fun _ => Int.neg_nonpos_of_nonneg h0, Int.neg_eq_zero.trans hz⟩

/-- the sign pattern of the components fixes the quadrant of the track (atan2(east, north) in [0, 360)):
direction bits 0/0 → north-east, 1/0 → north-west, 0/1 → south-east, 1/1 → south-west; a zero component puts
the track on the axis -/
theorem track_quadrant (v : Vel) (r : Velocity) (a b c d : Nat) (hs : v.sub = .ground a b c d) (h : v.calc = some r) :
    (a = 0 → 0 ≤ r.vEw) ∧ (a ≠ 0 → r.vEw ≤ 0) ∧ (c = 0 → 0 ≤ r.vNs) ∧ (c ≠ 0 → r.vNs ≤ 0) ∧
    (r.vEw = 0 ↔ b = 1) ∧ (r.vNs = 0 ↔ d = 1) := by
  rw [calc_ground v a b c d hs] at h
  split at h
  · cases h
  · next hz =>
    cases h
    have hk : (0 : Int) < if v.st = 2 then 4 else 1 := by split <;> decide
    obtain ⟨e1, e2, e3⟩ := comp_sign (fun h => hz (Or.inl h)) hk a
    obtain ⟨n1, n2, n3⟩ := comp_sign (fun h => hz (Or.inr (Or.inl h))) hk c
    exact ⟨e1, e2, n1, n2, e3, n3⟩

/-! ## non-vacuity (tests) -/
example : (Vel.calc { st := 1, nacv := 0, sub := .ground 1 10 1 5, vrateSrc := 0, vrateSign := 0, vrate := 3, reserved := 0, gnssSign := 0, gnssDiff := 0 })
    = some { vEw := -9, vNs := -4, vrate := 128 } := by decide
example : (Vel.calc { st := 2, nacv := 0, sub := .ground 0 101 0 1, vrateSrc := 0, vrateSign := 1, vrate := 2, reserved := 0, gnssSign := 0, gnssDiff := 0 })
    = some { vEw := 400, vNs := 0, vrate := -64 } := by decide
example : (Vel.calc { st := 1, nacv := 0, sub := .ground 0 0 0 10, vrateSrc := 0, vrateSign := 0, vrate := 3, reserved := 0, gnssSign := 0, gnssDiff := 0 }) = none := by decide

end Adsb.C07
