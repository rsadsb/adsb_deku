import Adsb.Gen.VelFn
import Adsb.Theorems.C07
import Adsb.Theorems.C07b
/-! # C07 (part 3) — `AirborneVelocity::calculate` as the source text has it today

`Gen/VelFn.lean` is written by `tools/rust2lean.py` from `adsb.rs` / `lib.rs` on every run: the i16 / u16 arithmetic of `calculate`
(with `Sign::value`) with every overflow check written out, and the track-angle and speed expressions as terms over `TrackOps`.
Here: for every report the decoder can produce (10-bit velocities, 9-bit vertical rate, 1-bit signs) no check fires and the three
integers are the model's (`Vel.calc`, which `components`, `none_iff`, `vrate_range`, `track_quadrant` are about); the translated
track-angle term *is* `headingG` (by `rfl`, for every number type), and the translated speed with `hypot x y = √(x² + y²)` is `speedG`
— so `heading_range`, `track_polar`, `track_unique`, `speed_is_norm` are statements about the formulas of the source text. -/

namespace Adsb.C07c

theorem asI16_small (n : Nat) (h : n < 32768) : asI16 n = (n : Int) := by
  rw [asI16, Nat.mod_eq_of_lt (by omega), if_pos h]

/-- the vertical-rate chain on a 9-bit field: after `checked_sub(1)` and `checked_mul(64)` on `u16` the cast `as i16` is exact -/
theorem asI16_rate {r : Nat} (h0 : r ≠ 0) (h1 : r < 512) : asI16 ((r - 1) * 64) = ((r : Int) - 1) * 64 := by
  rw [asI16_small _ (by omega), Nat.cast_mul, Nat.cast_pred (Nat.pos_of_ne_zero h0)]; rfl

theorem signValueSrc_eq {s : Nat} (h : s ≤ 1) : Gen.signValueSrc s = signOf s := by
  have : s = 0 ∨ s = 1 := by omega
  rcases this with rfl | rfl <;> rfl

theorem i16out_false {x : Int} (h : -32768 ≤ x ∧ x ≤ 32767) : i16out x = false := by
  simpa [i16out] using h

/-- **the integer part of `calculate` in the source is the model's, and none of its i16 / u16 checks can fire** -/
theorem src_calculate_int (v : Vel) (a b c d : Nat) (hs : v.sub = .ground a b c d) (ha : a ≤ 1) (hc : c ≤ 1) (hb : b < 1024) (hd : d < 1024)
    (hvs : v.vrateSign ≤ 1) (h1 : v.vrate < 512) :
    Gen.calcIntSrc v.st a b c d v.vrateSign v.vrate = (false, v.calc.map (fun r => (r.vEw, r.vNs, r.vrate))) := by
  -- the seven checked values fit `i16`, whatever the zero tests say
  obtain ⟨p1, p2, p3⟩ := C07.comp_steps v.st a hb
  obtain ⟨q1, q2, q3⟩ := C07.comp_steps v.st c hd
  obtain ⟨-, -, r3⟩ := C07.i16_steps (m := (v.vrate : Int) - 1) (k := 64) (by omega) (.inr (.inr rfl)) (by omega) (C07.signOf_cases v.vrateSign)
  simp only [Gen.calcIntSrc, Vel.calc, hs, asI16_small b (by omega), asI16_small d (by omega), signValueSrc_eq ha, signValueSrc_eq hc,
    signValueSrc_eq hvs, i16out_false p1, i16out_false p2, i16out_false p3, i16out_false q1, i16out_false q2, i16out_false q3,
    Bool.or_false, Nat.lt_one_iff, if_neg (by omega : ¬ 65535 < (v.vrate - 1) * 64)]
  -- what is left is the control flow: the two zero tests, the same on both sides
  by_cases hz : b = 0 ∨ d = 0
  · rw [if_pos hz, if_pos hz]; rfl
  rw [if_neg hz, if_neg hz]
  by_cases hv : v.vrate = 0
  · rw [if_pos hv, if_pos hv]; rfl
  rw [if_neg hv, if_neg hv, asI16_rate hv h1, i16out_false r3]; rfl

/-- **… for every decoded frame**: the velocity payload of any buffer (`velAt`, what `Frame.decode` returns for type code 19) meets the
width hypotheses of `src_calculate_int`, so for everything the decoder can hand to `calculate` no check fires and the result is the model's -/
theorem src_calculate_decoded (B : Buf) (a b c d : Nat) (hs : (velAt B).sub = .ground a b c d) :
    Gen.calcIntSrc (velAt B).st a b c d (velAt B).vrateSign (velAt B).vrate = (false, (velAt B).calc.map (fun r => (r.vEw, r.vNs, r.vrate))) := by
  obtain ⟨rfl, rfl, rfl, rfl⟩ := C07.velSubAt_ground (show velSubAt B (bitsAt B 37 3) 45 = _ from hs)
  exact src_calculate_int (velAt B) _ _ _ _ hs (Nat.le_of_lt_succ (bitsAt_lt B _ 1)) (Nat.le_of_lt_succ (bitsAt_lt B _ 1)) (bitsAt_lt B _ 10)
    (bitsAt_lt B _ 10) (Nat.le_of_lt_succ (bitsAt_lt B 68 1)) (bitsAt_lt B 69 9)

/-- the track-angle expression of the source is the model's, whatever the number type -/
theorem src_heading_eq {α : Type} (T : TrackOps α) (v : Velocity) : Gen.headingSrc T v.vEw v.vNs = headingG T v := rfl

/-- `hypot` over the reals -/
noncomputable def hypotR (x y : ℝ) : ℝ := Real.sqrt (x * x + y * y)

/-- the speed expression of the source (`libm::hypot`) is the model's (`√(ew² + ns²)`) over the reals -/
theorem src_speed_eq (v : Velocity) : Gen.speedSrc C07b.realTrack hypotR v.vEw v.vNs = C07b.speed v := rfl

/-- **the track of the source text is the compass angle of the velocity vector**: in [0°, 360°), east = speed·sin, north = speed·cos -/
theorem src_track_polar (v : Velocity) :
    0 ≤ Gen.headingSrc C07b.realTrack v.vEw v.vNs ∧ Gen.headingSrc C07b.realTrack v.vEw v.vNs < 360 ∧
    (v.vEw : ℝ) = Gen.speedSrc C07b.realTrack hypotR v.vEw v.vNs * Real.sin (Gen.headingSrc C07b.realTrack v.vEw v.vNs * (Real.pi / 180)) ∧
    (v.vNs : ℝ) = Gen.speedSrc C07b.realTrack hypotR v.vEw v.vNs * Real.cos (Gen.headingSrc C07b.realTrack v.vEw v.vNs * (Real.pi / 180)) := by
  rw [src_heading_eq, src_speed_eq]
  exact ⟨(C07b.heading_range v).1, (C07b.heading_range v).2, C07b.track_polar v⟩

/-- non-vacuity / kernel evaluation of the translated integer part: 8D485020994409940838175B284F-like fields (west 9 → -8 kt, south 160 → -159 kt,
down 14 → -832 ft/min), the supersonic scale, and the extremes of every field -/
example : Gen.calcIntSrc 1 1 9 1 160 1 14 = (false, some (-8, -159, -832)) := by decide
example : Gen.calcIntSrc 2 0 1023 1 1023 0 511 = (false, some (4088, -4088, 32640)) := by decide
example : Gen.calcIntSrc 1 0 0 0 5 0 5 = (false, none) ∧ Gen.calcIntSrc 1 0 5 0 5 0 0 = (false, none) := by decide

end Adsb.C07c
