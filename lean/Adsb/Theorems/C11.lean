import Adsb.Display
/-! # C11 — the text rendering is a fixed template per type, filled with the frame's own decoded values

`report f` is a list of lines of literal text and typed holes; by construction every hole is a field (or a
function of fields) of `f` itself. The theorems state that every supported format renders something, and —
as explicit templates under each condition — when exactly the optional lines appear. The full text is compared
with the implementation for every branch by the correspondence (`D` operations). -/

namespace Adsb.C11

/-- every `meReport` starts with its title line -/
theorem meReport_ne_nil (me : ME) (icao : Nat) (a : String) (cap : Cap) (t : Bool) : meReport me icao a cap t ≠ [] := by
  cases me with
  | velocity v => unfold meReport; dsimp only; split <;> exact List.cons_ne_nil _ _
  | opStatus o => cases o <;> exact List.cons_ne_nil _ _
  | _ => exact List.cons_ne_nil _ _

/-- **every supported frame type other than the military format renders a non-empty report** -/
theorem render_nonempty (f : Frame) (h : ∀ af, f.df ≠ .military af) : report f ≠ [] := by
  obtain ⟨df, crc⟩ := f
  cases df with
  | military af => exact absurd rfl (h af)
  | adsb | tisb => exact meReport_ne_nil _ _ _ _ _
  | _ => exact List.cons_ne_nil _ _

/-- the military format (not yet interpreted) renders nothing -/
theorem military_empty (af crc : Nat) : report ⟨.military af, crc⟩ = [] := rfl

/-- DF0: with an altitude the report has the altitude line carrying the frame's own value; without, "ground" -/
theorem df0_template (crc vs cc u0 sl u1 ri u2 alt p : Nat) :
    report ⟨.shortAirAir vs cc u0 sl u1 ri u2 alt p, crc⟩ =
      if alt > 0 then
        [[lit " Short Air-Air Surveillance"], [lit "  ICAO Address:  ", .hex crc 6, lit " (Mode S / ADS-B)"],
         [lit "  Air/Ground:    airborne?"], [lit "  Altitude:      ", .nat alt, lit " ft barometric"]]
      else
        [[lit " Short Air-Air Surveillance"], [lit "  ICAO Address:  ", .hex crc 6, lit " (Mode S / ADS-B)"],
         [lit "  Air/Ground:    ground"]] := by
  by_cases h : alt > 0 <;> simp only [report, h, if_true, if_false, List.cons_append, List.nil_append]

/-- DF4: the altitude line appears exactly when the decoded altitude is above 0 -/
theorem df4_template (crc fs ac ap : Nat) (dr : DR) (um : UM) :
    report ⟨.survAlt fs dr um ac ap, crc⟩ =
      [[lit " Surveillance, Altitude Reply"], [lit "  ICAO Address:  ", .hex crc 6, lit " (Mode S / ADS-B)"],
       [lit "  Air/Ground:    ", lit (fsWord fs)]] ++
      (if ac > 0 then [[lit "  Altitude:      ", .nat ac, lit " ft barometric"]] else []) := by
  simp only [report]

/-- DF5: the squawk is printed as four hex digits of the decoded identity -/
theorem df5_template (crc fs id ap : Nat) (dr : DR) (um : UM) :
    report ⟨.survId fs dr um id ap, crc⟩ =
      [[lit " Surveillance, Identity Reply"], [lit "  ICAO Address:  ", .hex crc 6, lit " (Mode S / ADS-B)"],
       [lit "  Air/Ground:    ", lit (fsWord fs)], [lit "  Identity:      ", .hex id 4]] := by
  simp only [report]

/-- airborne position: address, capability word, altitude (or "None"), parity word and the raw CPR values -/
theorem airpos_template (a : Alt) (icao : Nat) (cap : Cap) :
    meReport (.airPosBaro a) icao "(Mode S / ADS-B)" cap true =
      [[lit " Extended Squitter Airborne position (barometric altitude)"],
       [lit "  Address:       ", .hex icao 6, lit " (Mode S / ADS-B)"], [lit "  Air/Ground:    ", lit (capWord cap)],
       [lit "  Altitude:      "] ++ (match a.alt with | none => [lit "None"] | some v => [.nat v, lit " ft barometric"]),
       [lit "  CPR type:      Airborne"], [lit "  CPR odd flag:  ", lit (if a.f = 0 then "even" else "odd")],
       [lit "  CPR latitude:  (", .nat a.lat, lit ")"], [lit "  CPR longitude: (", .nat a.lon, lit ")"]] := by
  simp only [meReport, altLines, ite_true, String.reduceAppend]
  cases a.alt <;> rfl

/-- target state and status: the heading line appears iff the heading-status bit is set; the ACAS line lists
autopilot / vnav / altitude-hold / approach exactly for the flags that are set, when ACAS is operational -/
theorem tss_template (x : TSS) (icao : Nat) (cap : Cap) :
    meReport (.tss x) icao "(Mode S / ADS-B)" cap true =
      [[lit " Extended Squitter Target state and status (V2)"], [lit "  Address:       ", .hex icao 6, lit " (Mode S / ADS-B)"],
       [lit "  Air/Ground:    ", lit (capWord cap)], [lit "  Target State and Status:"],
       [lit "    Target altitude:   MCP, ", .nat x.altitude, lit " ft"],
       [lit "    Altimeter setting: ", .qnh x.qnhRaw, lit " millibars"]] ++
      (if x.isHeading = 1 then [[lit "    Target heading:    ", .heading x.headingRaw]] else []) ++
      (if x.tcas = 1 then
        [[lit "    ACAS:              operational "] ++ (if x.autopilot = 1 then [lit "autopilot "] else []) ++
          (if x.vnav = 1 then [lit "vnav "] else []) ++ (if x.altHold = 1 then [lit "altitude-hold "] else []) ++
          (if x.approach = 1 then [lit " approach"] else [])]
       else [[lit "    ACAS:              NOT operational"]]) ++
      [[lit "    NACp:              ", .nat x.nacp], [lit "    NICbaro:           ", .nat x.nicbaro],
       [lit "    SIL:               ", .nat x.sil, lit " (per sample)"], [lit "    QNH:               ", .qnh x.qnhRaw, lit " millibars"]] := by
  simp only [meReport, ite_true, String.reduceAppend]

/-- velocity over ground: the three derived lines appear iff `calculate()` yields a velocity, otherwise "Invalid packet" -/
theorem velocity_template (v : Vel) (icao : Nat) (cap : Cap) (a b c d : Nat) (hs : v.sub = .ground a b c d) :
    meReport (.velocity v) icao "(Mode S / ADS-B)" cap true =
      [[lit " Extended Squitter Airborne velocity over ground, subsonic"], [lit "  Address:       ", .hex icao 6, lit " (Mode S / ADS-B)"],
       [lit "  Air/Ground:    ", lit (capWord cap)],
       [lit "  GNSS delta:    ", lit (if v.gnssSign = 0 then "" else "-"), .nat v.gnssDiff, lit " ft"]] ++
      (match v.calc with
       | some r => [[lit "  Heading:       ", .trackCeil r], [lit "  Speed:         ", .speedFloor r, lit " kt groundspeed"],
                    [lit "  Vertical rate: ", .int r.vrate, lit " ft/min ", lit (if v.vrateSrc = 0 then "barometric" else "GNSS")]]
       | none => [[lit "  Invalid packet"]]) := by
  simp only [meReport, hs, ite_true, String.reduceAppend]
  cases v.calc <;> rfl

/-- airspeed report: the rate line appears iff the rate field is not 0, with (raw−1)·64 -/
theorem airspeed_template (v : Vel) (icao : Nat) (cap : Cap) (a b c d : Nat) (hs : v.sub = .airspeed a b c d) :
    meReport (.velocity v) icao "(Mode S / ADS-B)" cap true =
      [[lit " Extended Squitter Airspeed and heading, subsonic"], [lit "  Address:       ", .hex icao 6, lit " (Mode S / ADS-B)"],
       [lit "  Air/Ground:    ", lit (capWord cap)], [lit "  IAS:           ", .nat d, lit " kt"]] ++
      (if v.vrate > 0 then [[lit "  Baro rate:     ", lit (if v.vrateSign = 0 then "" else "-"), .nat ((v.vrate - 1) * 64), lit " ft/min"]] else []) ++
      [[lit "  NACv:          ", .nat v.nacv]] := by
  simp only [meReport, hs, ite_true, String.reduceAppend]

/-- surface operational status: the L/W code is shown iff it is not 0 -/
theorem opsurf_lw (a : OpSurf) (icao : Nat) (cap : Cap) :
    ([lit "   Capability classes:"] ++ (if a.lw ≠ 0 then [lit " L/W=", .nat a.lw] else [])) ∈
      meReport (.opStatus (.surface a)) icao "(Mode S / ADS-B)" cap true := by
  simp only [meReport, List.mem_cons, true_or, or_true]

/-- DF16: the altitude line ("Baro altitude") appears exactly when the decoded altitude is above 0, whatever the VS bit says -/
theorem df16_template (crc vs s1 sl s2 ri s3 alt mv p : Nat) :
    report ⟨.longAirAir vs s1 sl s2 ri s3 alt mv p, crc⟩ =
      [[lit " Long Air-Air ACAS"], [lit "  ICAO Address:  ", .hex crc 6, lit " (Mode S / ADS-B)"]] ++
      (if alt > 0 then [[lit "  Air/Ground:    airborne?"], [lit "  Baro altitude: ", .nat alt, lit " ft"]] else [[lit "  Air/Ground:    ground"]]) := by
  by_cases h : alt > 0 <;> simp only [report, h, if_true, if_false, List.cons_append, List.nil_append]

/-- DF11: the *announced* address and the capability word -/
theorem df11_template (crc icao pi : Nat) (ca : Cap) :
    report ⟨.allCall ca icao pi, crc⟩ =
      [[lit " All Call Reply"], [lit "  ICAO Address:  ", .hex icao 6, lit " (Mode S / ADS-B)"], [lit "  Air/Ground:    ", lit (capWord ca)]] := by
  simp only [report]

/-- DF20 / DF21: the address shown is the checksum (address overlaid on parity), then altitude resp. squawk, then the Comm-B payload -/
theorem df20_template (crc fs alt : Nat) (dr : DR) (um : UM) (bds : BDS) :
    report ⟨.commBAlt fs dr um alt bds, crc⟩ =
      [[lit " Comm-B, Altitude Reply"], [lit "  ICAO Address:  ", .hexNoPad crc, lit " (Mode S / ADS-B)"],
       [lit "  Altitude:      ", .nat alt, lit " ft"]] ++ indentFirst "  " (bdsReport bds) := by
  simp only [report]

theorem df21_template (crc fs id p : Nat) (dr : DR) (um : UM) (bds : BDS) :
    report ⟨.commBId fs dr um id bds p, crc⟩ =
      [[lit " Comm-B, Identity Reply"], [lit "    ICAO Address:  ", .hexNoPad crc, lit " (Mode S / ADS-B)"],
       [lit "    Squawk:        ", .hexNoPad id]] ++ indentFirst "    " (bdsReport bds) := by
  simp only [report]

/-- identification: the callsign characters as decoded, the category letter of the type code and the category number -/
theorem ident_template (i : Ident) (icao : Nat) (cap : Cap) :
    meReport (.ident i) icao "(Mode S / ADS-B)" cap true =
      [[lit " Extended Squitter Aircraft identification and category"], [lit "  Address:       ", .hex icao 6, lit " (Mode S / ADS-B)"],
       [lit "  Air/Ground:    ", lit (capWord cap)], [lit "  Ident:         ", .text i.cn],
       [lit "  Category:      ", lit (tcLetter i.tc), .nat i.ca]] := by
  simp only [meReport, ite_true, String.reduceAppend]

/-- emergency / priority status: the decoded squawk and the word of the decoded emergency state -/
theorem status_template (s : AcStatus) (icao : Nat) (cap : Cap) :
    meReport (.status s) icao "(Mode S / ADS-B)" cap true =
      [[lit " Extended Squitter Emergency/priority status"], [lit "  Address:       ", .hex icao 6, lit " (Mode S / ADS-B)"],
       [lit "  Air/Ground:    ", lit (capWord cap)], [lit "  Squawk:        ", .hexNoPad s.squawk],
       [lit "  Emergency/priority:    ", lit (emergencyWord s.emergency)]] := by
  simp only [meReport, ite_true, String.reduceAppend]

/-- airborne operational status: each capability word appears exactly when its decoded field equals 1 — in particular " TC" for the
2-bit value 1 only, not for 2 or 3 -/
theorem opair_capability_words (a : OpAir) (icao : Nat) (cap : Cap) :
    ([lit "   Capability classes:"] ++ (if a.acas = 1 then [lit " ACAS"] else []) ++ (if a.cdti = 1 then [lit " CDTI"] else []) ++
      (if a.arv = 1 then [lit " ARV"] else []) ++ (if a.ts = 1 then [lit " TS"] else []) ++ (if a.tc = 1 then [lit " TC"] else [])) ∈
      meReport (.opStatus (.airborne a)) icao "(Mode S / ADS-B)" cap true := by
  simp only [meReport, List.mem_cons, true_or, or_true]

/-- the operational-mode words of both operational status reports appear exactly when their decoded bits are set; SDA when not 0 -/
theorem om_words (o : OpMode) :
    omPieces o = (if o.ra = 1 then [lit " TCAS"] else []) ++ (if o.ident = 1 then [lit " IDENT_SWITCH_ACTIVE"] else []) ++
      (if o.atc = 1 then [lit " ATC"] else []) ++ (if o.saf = 1 then [lit " SAF"] else []) ++
      (if o.sda ≠ 0 then [lit " SDA=", .nat o.sda] else []) := rfl

/-- a TIS-B / ADS-R report is the same template with "(Non-Transponder)", the address-scheme word of its control field
and the fixed capability word -/
theorem tisb_uses_same_template (cf aa pi crc : Nat) (me : ME) :
    report ⟨.tisb cf aa me pi, crc⟩ = meReport me aa (cfWord cf) ⟨7, 0⟩ false := rfl

theorem adsb_uses_template (ca : Cap) (icao pi crc : Nat) (me : ME) :
    report ⟨.adsb ca icao me pi, crc⟩ = meReport me icao "(Mode S / ADS-B)" ca true := rfl

end Adsb.C11
