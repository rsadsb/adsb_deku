import Adsb.Lemmas.Total
import Adsb.Lemmas.Range
import Adsb.Lemmas.ModeAC
import Adsb.Theorems.C12
import Adsb.Theorems.C07
/-! # C01 — decoding and every frame operation are total: the model never reaches a panic branch

`Res.panic` stands for a Rust panic (overflow check, slice index, `unwrap`). The decoder model has no
panic branch in its readers by construction of deku's error handling; the arithmetic of the hand-written
readers and of `calculate` is re-stated with every overflow check written out and shown never to fire. -/

namespace Adsb.C01

/-- **decoding is total**: for every byte string, `decode` returns a frame or an error, never a panic.
(Termination is by construction: every definition is structurally recursive over bounded data.) -/
theorem decode_total (B : Buf) : (decode B).NoPanic := decode_np B

/-- a successful read never pulls more than the buffer from the reader, so the checksum cache never exceeds it -/
theorem reads_bounded (B : Buf) (n v : Nat) (s s' : RS) (h : readBits B n s = .ok (v, s')) (hhi : s.hi ≤ B.len) :
    s'.hi ≤ B.len ∧ s'.bp ≤ 8 * B.len := by
  obtain ⟨hl, e⟩ := (readBits_eq_ok ..).mp h
  cases e
  exact ⟨Nat.max_le.mpr ⟨hhi, by omega⟩, hl⟩

/-- `calculate()` with every Rust overflow check written out never panics on a decoded velocity report -/
theorem calculate_total (B : Buf) : ((velAt B).calcR).NoPanic := by
  rw [C07.calc_no_overflow _ (bitsAt_lt B 69 9) fun a b c d h => by
    obtain ⟨-, rfl, -, rfl⟩ := C07.velSubAt_ground (show velSubAt B (bitsAt B 37 3) 45 = _ from h)
    exact ⟨bitsAt_lt B _ 10, bitsAt_lt B _ 10⟩]
  trivial

/-! ## the altitude readers with Rust's arithmetic checks written out -/

/-- `AC13Field::read` on `u16`: `n * 25` must not overflow, `n - 1000` must not underflow -/
def ac13R (num : Nat) : Res Nat :=
  if num == 0 || num == 0x1fff then .ok 0
  else if num &&& 0x40 != 0 then .ok 0
  else if num &&& 0x10 != 0 then
    let n := ((num &&& 0x1f80) >>> 2) ||| ((num &&& 0x20) >>> 1) ||| (num &&& 0xf)
    if n * 25 ≥ 65536 then .panic "lib.rs AC13Field::read n * 25" else
    let n := n * 25
    if n > 1000 then .ok (n - 1000) else .ok 0
  else
    match modeAToC (decodeId13 num) with
    | some n => if 100 * n ≥ 2 ^ 32 then .panic "lib.rs AC13Field::read 100 * n" else .ok (if 100 * n < 65536 then 100 * n else 0)
    | none => .ok 0

/-- `mode_a_to_mode_c` on `u32`: `6 - one_hundreds` and `n - 13` must not underflow -/
def modeAToCR (a : Nat) : Res (Option Nat) :=
  if a &&& 0xffff8889 != 0 || a &&& 0xf0 == 0 then .ok none else
  let oh := (if bitSet a 0x10 then 7 else 0) ^^^ (if bitSet a 0x20 then 3 else 0) ^^^ (if bitSet a 0x40 then 1 else 0)
  let oh := if oh &&& 5 == 5 then oh ^^^ 2 else oh
  if oh > 5 then .ok none else
  let fh := (if bitSet a 0x0002 then 0xff else 0) ^^^ (if bitSet a 0x0004 then 0x7f else 0) ^^^
            (if bitSet a 0x1000 then 0x3f else 0) ^^^ (if bitSet a 0x2000 then 0x1f else 0) ^^^
            (if bitSet a 0x4000 then 0x0f else 0) ^^^ (if bitSet a 0x0100 then 0x07 else 0) ^^^
            (if bitSet a 0x0200 then 0x03 else 0) ^^^ (if bitSet a 0x0400 then 0x01 else 0)
  if fh &&& 1 != 0 && oh ≤ 6 && oh > 6 then .panic "mode_ac.rs 6 - one_hundreds" else
  let oh := if fh &&& 1 != 0 && oh ≤ 6 then 6 - oh else oh
  let n := fh * 5 + oh
  if n ≥ 13 then .ok (some (n - 13)) else .ok none

theorem le_and_gt (x : Bool) (n k : Nat) : (x && decide (n ≤ k) && decide (n > k)) = false := by
  cases x <;> simp

/-- the one check `mode_a_to_mode_c` adds, `6 - oh`, stands under the guard `oh ≤ 6`: it cannot fire, whatever the argument -/
theorem modeAToCR_eq (a : Nat) : modeAToCR a = .ok (modeAToC a) := by
  simp only [modeAToCR, modeAToC, le_and_gt, Bool.false_eq_true, if_false, apply_ite (Res.ok (α := Option Nat))]

/-- the same over the 13-bit codes, worded as an evaluation; it is the instance of `modeAToCR_eq` -/
theorem modeAToCR_all : allRange (fun c => match modeAToCR (decodeId13 c) with | .ok v => v == modeAToC (decodeId13 c) | _ => false) 0 8192 14 = true :=
  allRange_complete _ 13 0 8192 (by decide) fun c _ _ => by rw [modeAToCR_eq]; exact beq_self_eq_true _

/-- no arithmetic check fires in the 13-bit altitude reader, whatever the argument: the Q = 1 count has eleven bits
(`q_count_lt`) and a Gillham altitude is below 1280 hundreds of feet (`modeAToC_lt`) -/
theorem ac13R_eq (c : Nat) : ac13R c = .ok (ac13 c) := by
  have hq := q_count_lt c
  unfold ac13R ac13
  simp only [apply_ite (Res.ok (α := Nat))]
  rw [if_neg (show ¬ _ * 25 ≥ 65536 by omega)]
  cases hm : modeAToC (decodeId13 c) with
  | none => rfl
  | some n => simp only [if_neg (show ¬ 100 * n ≥ 2 ^ 32 by have := modeAToC_lt hm; omega), apply_ite (Res.ok (α := Nat))]

/-- **no arithmetic check fires in the 13-bit altitude reader**, for all 8192 codes -/
theorem ac13_total (c : Nat) (h : c < 8192) : ac13R c = .ok (ac13 c) := ac13R_eq c

/-- the tracker step never divides, indexes or unwraps; the only Rust panic site is `num_messages += 1` on a `u32` -/
theorem tracker_count_bound {P D : Type} (g : Geo P D) (std : Bool) (now : Nat) (st : Plane P D) (me : ME) (h : st.numMessages < 2 ^ 32 - 1) :
    (C12.stepPlane g std now st me).numMessages < 2 ^ 32 := by
  rw [C12.stepPlane_numMessages]; omega

/-! ## the two `u32` counters (tracker message count, statistics total) -/

/-- counting a frame never panics and keeps the counter a `u32`, for every value of the counter -/
theorem count_total (n : Nat) (h : n ≤ u32Max) : ∃ m, incrCount n = .ok m ∧ m ≤ u32Max ∧ n ≤ m :=
  satIncr_spec n h

/-- below the last value the counter is the model's `n + 1` -/
theorem count_agrees_below (n : Nat) (h : n < u32Max) : incrCount n = .ok (n + 1) ∧ incrCountOld n = .ok (n + 1) :=
  incr_below _ n h

/-- the arithmetic before the repair panicked on the 2^32-th frame of one aircraft: reproduced on the real `Airplanes::incr_messages`
(2^32 calls, 147 s: `attempt to add with overflow` at `rsadsb_common/src/lib.rs:275`), repaired by /repo commit f88e2c6 -/
theorem count_old_panics : incrCountOld u32Max = .panic "rsadsb_common lib.rs: attempt to add with overflow" := rfl

end Adsb.C01
