import Adsb.Lemmas.Reject
import Adsb.Spec.Fields
import Adsb.Spec.Codes
/-! # C08 — aircraft identification: eight characters, ICAO alphabet, category -/

namespace Adsb.C08
open Adsb.Spec

/-- the generated `CHAR_LOOKUP` is the Annex 10 character set, on all 64 codes -/
theorem chars_spec : ∀ c, c < 64 → charOf c = Spec.ia5 c := by decide +kernel

/-- the table of the source (regenerated) has an entry for every 6-bit code: `CHAR_LOOKUP[c]` is in bounds for everything the reader can
produce, so the default of the model's `getD` is never used and hides no index panic -/
theorem char_table_covers_six_bits : Gen.charLookup.length = 64 := by decide

/-- the specification of the text: the eight codes in order, code 32 (space) removed, mapped by the alphabet -/
def specText (codes : List Nat) : List Nat := (codes.filter (· != 32)).map Spec.ia5

theorem identText_spec (cs : List Nat) (h : ∀ c ∈ cs, c < 64) : identText cs = specText cs := by
  unfold identText specText
  apply List.map_congr_left
  intro c hc
  exact chars_spec c (h c ((List.mem_filter.mp hc).1))

/-- the eight character fields of an ME / MB payload -/
def charCodes (B : Buf) : List Nat := (List.range 8).map (fun i => (CHAR i).ofME B)

theorem identAt_spec (B : Buf) : identAt B 40 = specText (charCodes B) := by
  have e : identAt B 40 = identText (charCodes B) := by
    simp [identAt, charCodes, List.range, List.range.loop, Field.ofME, CHAR]
  rw [e]
  apply identText_spec
  intro c hc
  simp only [charCodes, List.mem_map] at hc
  obtain ⟨i, _, rfl⟩ := hc
  exact bitsAt_lt _ _ _

/-- **type 1–4 squitters** (DF17 and DF18): type code, category field and the eight characters -/
theorem squitter_ident (B : Buf) (f : Frame) (h : decode B = .ok f)
    (htc : 1 ≤ TC.ofME B ∧ TC.ofME B ≤ 4) :
    (DFcode.of B = 17 → ∃ ca icao pi, f.df = .adsb ca icao (.ident ⟨TC.ofME B, CAT.ofME B, specText (charCodes B)⟩) pi) ∧
    (DFcode.of B = 18 → ∃ cf aa pi, f.df = .tisb cf aa (.ident ⟨TC.ofME B, CAT.ofME B, specText (charCodes B)⟩) pi) := by
  obtain ⟨L, _, _, rfl⟩ := decoded B f h
  have hme : meAt B = .ident ⟨TC.ofME B, CAT.ofME B, specText (charCodes B)⟩ := by
    rw [← identAt_spec]; exact meAt_ident B htc
  rw [← hme]
  exact ⟨fun c => ⟨_, _, _, dfAt_17 B c⟩, fun c => ⟨_, _, _, dfAt_18 B c⟩⟩

/-- **BDS 2,0 Comm-B replies** (DF20 and DF21): the eight characters of MB bits 9–56 -/
theorem commb_ident (B : Buf) (f : Frame) (h : decode B = .ok f) (hb : BDSCODE.ofME B = 0x20) :
    (DFcode.of B = 20 → ∃ fs dr um alt, f.df = .commBAlt fs dr um alt (.ident (specText (charCodes B)))) ∧
    (DFcode.of B = 21 → ∃ fs dr um id ap, f.df = .commBId fs dr um id (.ident (specText (charCodes B))) ap) := by
  obtain ⟨L, _, _, rfl⟩ := decoded B f h
  have hb' : bitsAt B 32 8 = 0x20 := hb
  have hbds : bdsAt B = .ident (specText (charCodes B)) := by
    rw [← identAt_spec]
    simp [bdsAt, hb']
  rw [← hbds]
  exact ⟨fun c => ⟨_, _, _, _, dfAt_20 B c⟩, fun c => ⟨_, _, _, _, _, dfAt_21 B c⟩⟩

/-- the text never contains a space, and every character is a letter, a digit or '#' -/
theorem text_alphabet (codes : List Nat) : ∀ ch ∈ specText codes,
    (65 ≤ ch ∧ ch ≤ 90) ∨ (48 ≤ ch ∧ ch ≤ 57) ∨ ch = 35 := by
  intro ch hch
  simp only [specText, List.mem_map, List.mem_filter] at hch
  obtain ⟨c, ⟨_, hne⟩, rfl⟩ := hch
  have hne' : c ≠ 32 := by simpa using hne
  unfold Spec.ia5
  by_cases h1 : 1 ≤ c ∧ c ≤ 26
  · rw [if_pos h1]; left; omega
  · rw [if_neg h1, if_neg hne']
    by_cases h3 : 48 ≤ c ∧ c ≤ 57
    · rw [if_pos h3]; right; left; exact h3
    · rw [if_neg h3]; right; right; rfl

/-! ## non-vacuity (tests) -/
example : specText [11, 12, 13, 49, 48, 50, 51, 32] = "KLM1023".toList.map Char.toNat := by decide +kernel
example : specText [1, 2, 32, 3, 63, 32, 32, 32] = "ABC#".toList.map Char.toNat := by decide +kernel

end Adsb.C08
