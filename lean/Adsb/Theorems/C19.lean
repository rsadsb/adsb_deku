import Adsb.ReaderSched
import Adsb.Frame
/-! # C19 — reader decoding is independent of read fragmentation and transient errors -/

namespace Adsb.C19

/-- a `ReaderCrc` in a good state is determined by the cursor `(pos, hi)` and the rest of the schedule.
`canon pre data pos hi s` stands `pos` bytes into `data`, which follows `pre` in the inner reader; its cache is the
first `hi` bytes of `data`. -/
def canon (pre data : List UInt8) (pos hi : Nat) (s : List Sch) : RC :=
  { inner := { data := pre ++ data, pos := pos + pre.length, sched := s }, cache := data.take hi, pos := pos }

theorem canon_sched (pre data : List UInt8) (pos hi : Nat) (s : List Sch) : (canon pre data pos hi s).inner.sched = s := rfl
theorem canon_pos (pre data : List UInt8) (pos hi : Nat) (s : List Sch) : (canon pre data pos hi s).pos = pos := rfl

theorem slice_length (l : List UInt8) (p n : Nat) (h : p + n ≤ l.length) : (slice l p n).length = n := by
  unfold slice; rw [List.length_take, List.length_drop]; exact Nat.min_eq_left (Nat.le_sub_of_add_le' h)

theorem take_append_slice (l : List UInt8) (p n : Nat) : l.take p ++ slice l p n = l.take (p + n) := by
  unfold slice; rw [List.take_add]

theorem slice_append (l : List UInt8) (p n m : Nat) : slice l p n ++ slice l (p + n) m = slice l p (n + m) := by
  unfold slice
  rw [List.take_add, List.drop_drop, Nat.add_comm p n]

theorem slice_drop (l : List UInt8) (p n k : Nat) : (slice l p n).drop k = slice l (p + k) (n - k) := by
  unfold slice
  rw [List.drop_take, List.drop_drop]

theorem slice_shift (pre d : List UInt8) (p n : Nat) : slice (pre ++ d) (p + pre.length) n = slice d p n := by
  unfold slice
  rw [Nat.add_comm, ← List.drop_drop, List.drop_left]

theorem cacheAfter_take (data : List UInt8) (pos hi n : Nat) (h1 : pos ≤ hi) (h2 : hi ≤ data.length)
    (h3 : pos + n ≤ data.length) :
    cacheAfter (data.take hi) pos (slice data pos n) = data.take (max hi (pos + n)) := by
  unfold cacheAfter
  rw [slice_length _ _ _ h3, List.length_take, Nat.min_eq_left h2]
  by_cases h : hi < pos + n
  · -- the bytes from offset `hi` on are new
    rw [if_pos h, Nat.max_eq_right (Nat.le_of_lt h), Nat.min_eq_right (by omega), show n - (pos + n - hi) = hi - pos by omega,
      slice_drop, Nat.add_sub_cancel' h1, take_append_slice]
    congr 1; omega
  · rw [if_neg h, Nat.max_eq_left (Nat.le_of_not_lt h)]

theorem read_canon_some (pre data : List UInt8) (pos hi n want : Nat) (s s' : List Sch) (h1 : pos ≤ hi) (h2 : hi ≤ data.length)
    (h3 : pos + n ≤ data.length)
    (h : (canon pre data pos hi s).inner.read want =
      (some (slice (pre ++ data) (pos + pre.length) n), { data := pre ++ data, pos := pos + pre.length + n, sched := s' })) :
    (canon pre data pos hi s).read want = (some (slice data pos n), canon pre data (pos + n) (max hi (pos + n)) s') := by
  unfold RC.read
  rw [h, slice_shift]
  simp only [canon, slice_length _ _ _ h3, cacheAfter_take _ _ _ _ h1 h2 h3, Nat.add_right_comm pos]

/-- **one `ReaderCrc::read` call**: an interrupted call changes nothing but the schedule; any other call delivers the next
`n` bytes and moves the cursor by `n`, where `n` is within what was asked for and what is left, and is 0 only if one of
the two is (the contract of `Read::read`) -/
theorem read_canon (pre data : List UInt8) (pos hi want : Nat) (s : List Sch) (h1 : pos ≤ hi) (h2 : hi ≤ data.length) :
    (∃ s', s'.length < s.length ∧ (canon pre data pos hi s).read want = (none, canon pre data pos hi s')) ∨
    (∃ n s', n ≤ want ∧ pos + n ≤ data.length ∧ (n = 0 → want = 0 ∨ data.length ≤ pos) ∧ s'.length ≤ s.length ∧
      (canon pre data pos hi s).read want = (some (slice data pos n), canon pre data (pos + n) (max hi (pos + n)) s')) := by
  have hl : (pre ++ data).length - (pos + pre.length) = data.length - pos := by
    rw [List.length_append, Nat.add_comm pos, Nat.add_sub_add_left]
  match s with
  | .intr :: rest => exact .inl ⟨rest, Nat.lt_succ_self _, rfl⟩
  | .chunk k :: rest =>
    have hp : pos + min (min want (k + 1)) (data.length - pos) ≤ data.length := by omega
    exact .inr ⟨_, rest, Nat.le_trans (Nat.min_le_left ..) (Nat.min_le_left ..), hp, by omega, Nat.le_succ _,
      read_canon_some _ _ _ _ _ _ _ _ h1 h2 hp (by simp only [canon, Inner.read, hl]; rfl)⟩
  | [] =>
    have hp : pos + min want (data.length - pos) ≤ data.length := by omega
    exact .inr ⟨_, [], Nat.min_le_left .., hp, by omega, Nat.le_refl _,
      read_canon_some _ _ _ _ _ _ _ _ h1 h2 hp (by simp only [canon, Inner.read, hl]; rfl)⟩

/-- **`read_exact` is independent of the schedule**: for every fragmentation and every placement of transient `Interrupted`
errors, `read_exact(want)` returns exactly the next `want` bytes and moves the cursor by `want` — and fails
(`UnexpectedEof`) exactly when fewer than `want` bytes remain. It never loops: the fuel `schedule length + want + 1` suffices. -/
theorem readExact_canon (pre data : List UInt8) (fuel : Nat) : ∀ (pos hi want : Nat) (s : List Sch), pos ≤ hi → hi ≤ data.length →
    s.length + want < fuel →
    ∃ s', readExact fuel (canon pre data pos hi s) want =
      if pos + want ≤ data.length then .ok (slice data pos want, canon pre data (pos + want) (max hi (pos + want)) s')
      else .err .incomplete := by
  induction fuel with
  | zero => intro _ _ _ _ _ _ hf; omega
  | succ fuel ih =>
    intro pos hi want s h1 h2 hf
    cases want with
    | zero =>
      refine ⟨s, ?_⟩
      rw [if_pos (show pos + 0 ≤ _ from Nat.le_trans h1 h2), Nat.max_eq_left (show pos + 0 ≤ hi from h1)]
      rfl
    | succ want =>
      rcases read_canon pre data pos hi (want + 1) s h1 h2 with ⟨s', hs, e⟩ | ⟨n, s', hn, hp, h0, hs, e⟩
      · -- interrupted: retry with a shorter schedule
        rw [readExact, e]
        exact ih pos hi (want + 1) s' h1 h2 (by omega)
      · rw [readExact, e]
        simp only [slice_length data pos n hp]
        by_cases hn0 : n = 0
        · exact ⟨s', by rw [if_pos hn0, if_neg (by omega)]⟩
        · -- `n` bytes now, the rest from the recursive call
          obtain ⟨s'', hr⟩ := ih (pos + n) (max hi (pos + n)) (want + 1 - n) s' (Nat.le_max_right ..) (Nat.max_le.mpr ⟨h2, hp⟩)
            (by omega)
          rw [Nat.max_assoc, Nat.max_eq_right (Nat.le_add_right ..), Nat.add_assoc, Nat.add_sub_cancel' hn] at hr
          refine ⟨s'', ?_⟩
          rw [if_neg hn0, hr]
          by_cases hw : pos + (want + 1) ≤ data.length
          · rw [if_pos hw, if_pos hw]
            show Res.ok (slice data pos n ++ slice data (pos + n) (want + 1 - n), _) = _
            rw [slice_append, Nat.add_sub_cancel' hn]
          · rw [if_neg hw, if_neg hw]

theorem seekBack_canon (pre data : List UInt8) (pos hi j : Nat) (s : List Sch) (hj : j ≤ pos) :
    (canon pre data pos hi s).seekBack j = canon pre data (pos - j) hi s := by
  simp only [RC.seekBack, canon, Nat.sub_add_comm hj]

/-- the slice cursor keeps `pos ≤ hi ≤ data.length` -/
theorem specRun_bounds (data : List UInt8) (calls : List Call) : ∀ (pos hi : Nat), pos ≤ hi → hi ≤ data.length →
    ∀ r, specRun data pos hi calls = some r → r.2.1 ≤ r.2.2 ∧ r.2.2 ≤ data.length := by
  induction calls with
  | nil => intro pos hi h1 h2 r h; cases h; exact ⟨h1, h2⟩
  | cons c rest ih =>
    intro pos hi h1 h2 r h
    cases c with
    | read k =>
      simp only [specRun] at h
      split at h
      · obtain ⟨r', hr', rfl⟩ := Option.map_eq_some_iff.mp h
        exact ih _ _ (Nat.le_max_right ..) (Nat.max_le.mpr ⟨h2, ‹_›⟩) r' hr'
      · cases h
    | seekBack j =>
      simp only [specRun] at h
      split at h
      · exact ih _ _ (by omega) h2 r h
      · cases h

/-- **refinement, in general**: from the cursor `(pos, hi)`, for every schedule `s` and every prefix `pre` in front of the
data, every sequence of `read_exact` / backward-seek calls delivers what the slice cursor delivers and ends at the slice
cursor's `(pos', hi')` -/
theorem concRun_canon (pre data : List UInt8) (calls : List Call) : ∀ (pos hi : Nat) (s : List Sch), pos ≤ hi → hi ≤ data.length →
    ∃ s', concRun (canon pre data pos hi s) calls =
      (specRun data pos hi calls).map fun r => (r.1, canon pre data r.2.1 r.2.2 s') := by
  induction calls with
  | nil => exact fun pos hi s _ _ => ⟨s, rfl⟩
  | cons c rest ih =>
    intro pos hi s h1 h2
    cases c with
    | read k =>
      obtain ⟨s', hr⟩ := readExact_canon pre data (s.length + k + 1) pos hi k s h1 h2 (Nat.lt_succ_self _)
      simp only [specRun, concRun, canon_sched, hr]
      by_cases hfit : pos + k ≤ data.length
      · obtain ⟨s'', e⟩ := ih (pos + k) (max hi (pos + k)) s' (Nat.le_max_right ..) (Nat.max_le.mpr ⟨h2, hfit⟩)
        exact ⟨s'', by simp only [if_pos hfit, e, Option.map_map]; rfl⟩
      · exact ⟨s, by simp only [if_neg hfit]; rfl⟩
    | seekBack j =>
      by_cases hj : j ≤ pos
      · simp only [specRun, concRun, canon_pos, hj, if_true, seekBack_canon _ _ _ _ _ _ hj]
        exact ih (pos - j) hi s (by omega) h2
      · exact ⟨s, by simp only [specRun, concRun, canon_pos, hj, if_false]; rfl⟩

/-- the invariant `Good` says exactly that the reader is canonical; `pre` in front of it changes nothing else -/
theorem shift_eq_canon (rc : RC) (hg : rc.Good) (pre : List UInt8) :
    rc.shift pre = canon pre rc.inner.data rc.pos rc.cache.length rc.inner.sched := by
  unfold RC.shift canon
  rw [← hg.2.1, hg.1]

theorem canon_good (data : List UInt8) (pos hi : Nat) (s : List Sch) (h1 : pos ≤ hi) (h2 : hi ≤ data.length) :
    (canon [] data pos hi s).Good ∧ (canon [] data pos hi s).cache.length = hi := by
  have hl : (canon [] data pos hi s).cache.length = hi := (List.length_take ..).trans (Nat.min_eq_left h2)
  unfold RC.Good
  rw [hl]
  exact ⟨⟨rfl, rfl, h1, h2⟩, rfl⟩

/-- **refinement**: for every schedule, every sequence of `read_exact` / backward-seek calls delivers the same bytes as
reading the slice directly, ends at the same offset, and leaves `ReaderCrc`'s cache equal to the first `hi` bytes — the
window the checksum is computed over. Hence `from_reader` computes what `from_bytes` computes. -/
theorem reader_refines_cursor (calls : List Call) : ∀ (rc : RC), rc.Good →
    match specRun rc.inner.data rc.pos rc.cache.length calls with
    | some (outs, pos, hi) => ∃ rc', concRun rc calls = some (outs, rc') ∧ rc'.Good ∧ rc'.pos = pos ∧ rc'.cache.length = hi ∧
        rc'.cache = rc.inner.data.take hi
    | none => concRun rc calls = none := by
  intro rc hg
  obtain ⟨s', hr⟩ := concRun_canon [] rc.inner.data calls rc.pos rc.cache.length rc.inner.sched hg.2.2.1 hg.2.2.2
  rw [← shift_eq_canon rc hg []] at hr
  rw [show concRun rc calls = _ from hr] -- `rc.shift []` unfolds to `rc`
  cases hsp : specRun rc.inner.data rc.pos rc.cache.length calls with
  | none => rfl
  | some r =>
    obtain ⟨h1, h2⟩ := specRun_bounds _ _ _ _ hg.2.2.1 hg.2.2.2 r hsp
    exact ⟨_, rfl, (canon_good _ _ _ _ h1 h2).1, rfl, (canon_good _ _ _ _ h1 h2).2, rfl⟩

/-- **refinement at any offset**: `from_reader` on a reader that stands after an arbitrary prefix (a frame inside a longer
stream) behaves, for every schedule, exactly like the slice cursor over the frame's own bytes -/
theorem reader_refines_cursor_at_offset (pre : List UInt8) (calls : List Call) (rc : RC) (hg : rc.Good) :
    match specRun rc.inner.data rc.pos rc.cache.length calls with
    | some (outs, pos, hi) => ∃ rc' : RC, concRun (rc.shift pre) calls = some (outs, rc'.shift pre) ∧ rc'.pos = pos ∧
        (rc'.shift pre).cache = rc.inner.data.take hi
    | none => concRun (rc.shift pre) calls = none := by
  obtain ⟨s', hr⟩ := concRun_canon pre rc.inner.data calls rc.pos rc.cache.length rc.inner.sched hg.2.2.1 hg.2.2.2
  rw [shift_eq_canon rc hg pre, hr]
  cases specRun rc.inner.data rc.pos rc.cache.length calls with
  | none => rfl
  | some r => exact ⟨canon [] rc.inner.data r.2.1 r.2.2 s', rfl, rfl, rfl⟩

/-- decoding is a pure function of the bytes (the model is a function; repetition and interleaving cannot matter) -/
theorem decode_pure (B : Buf) : decode B = decode B := rfl

end Adsb.C19
