import Adsb.Theorems.C13
/-! # C14 — latest-wins attributes; derived views agree with the records; the track -/

namespace Adsb.C14
open Adsb.C12 Adsb.C13
variable {P D : Type}

/-- **callsign is latest-wins**: an identification report sets it, every other report keeps it -/
theorem callsign_latest (g : Geo P D) (std : Bool) (now : Nat) (st : Plane P D) (me : ME) :
    (stepPlane g std now st me).callsign = match me with | .ident i => some i.cn | _ => st.callsign := by
  show (payload g std now st me).callsign = _
  cases me with
  | airPosBaro a | airPosGnss a => exact updatePosition_callsign ..
  | velocity v => simp only [payload]; cases v.calc <;> rfl
  | _ => rfl

/-- **heading, ground speed and vertical rate are latest-wins**: a velocity report that carries a derived velocity
sets all three, every other report (also a velocity report without information) keeps them -/
theorem velocity_latest (g : Geo P D) (std : Bool) (now : Nat) (st : Plane P D) (me : ME) :
    (stepPlane g std now st me).vel = match me with
      | .velocity v => (match v.calc with | some r => some r | none => st.vel)
      | _ => st.vel := by
  show (payload g std now st me).vel = _
  cases me with
  | airPosBaro a | airPosGnss a => exact updatePosition_vel ..
  | velocity v => simp only [payload]; cases v.calc <;> rfl
  | _ => rfl

/-- **altitude is that of a currently stored (paired) position report** -/
theorem altitude_of_slot (c : Coor P D) (alt : Nat) (h : c.altitude = some alt) : ∃ e, c.even = some e ∧ e.alt = some alt :=
  Option.bind_eq_some_iff.mp h

/-- **details are available exactly for aircraft with a position, an altitude and a distance** -/
theorem details_iff (s : Airplanes P D) (k : Nat) :
    hasDetails s k = true ↔ ∃ p, s.get k = some p ∧ p.coords.pos.isSome ∧ p.coords.altitude.isSome ∧ p.coords.kd.isSome := by
  unfold hasDetails
  cases hg : s.get k with
  | none => simp
  | some p => simp [Bool.and_eq_true, and_assoc]

/-- **the position list holds exactly the aircraft with a position**, in address order -/
theorem all_position_iff (s : Airplanes P D) (k : Nat) (pos : P) :
    (k, pos) ∈ allPosition s ↔ ∃ p, (k, p) ∈ s ∧ p.coords.pos = some pos := by
  unfold allPosition
  rw [List.mem_filterMap]
  constructor
  · rintro ⟨⟨k', p⟩, hm, hq⟩
    obtain ⟨q, hp, he⟩ := Option.map_eq_some_iff.mp hq
    cases he
    exact ⟨p, hm, hp⟩
  · rintro ⟨p, hm, hp⟩
    exact ⟨(k, p), hm, congrArg (Option.map _) hp⟩

/-- **a distance is present exactly when a position is**, in every reachable state -/
theorem distance_iff_position (g : Geo P D) (std : Bool) (hist : List (Nat × DF)) (k : Nat) (pl : Plane P D)
    (hg : (run g std [] hist).get k = some pl) : pl.coords.pos.isSome = pl.coords.kd.isSome :=
  (allInv_run g std hist [] (fun _ _ h => by cases h) k pl hg).1

/-- the positions an aircraft has published so far, oldest first: the positioned entries of its track, then the
currently published one -/
def pubList (st : Plane P D) : List P := (st.track.getD []).filterMap (·.pos) ++ st.coords.pos.toList

theorem pubList_push (st : Plane P D) (t : Coor P D) :
    pubList { st with track := some (st.track.getD [] ++ [st.coords]), coords := t } = pubList st ++ t.pos.toList := by
  unfold pubList
  cases hp : st.coords.pos <;> simp [List.filterMap_append, hp]

/-- **the track**: a position update either leaves the published sequence as it is (no change, or the current
position is cleared and thereby moves into the track) or appends the newly published position. Hence the positioned
entries of the track are exactly the previously published positions, in order. -/
theorem track_step (g : Geo P D) (std : Bool) (now : Nat) (st : Plane P D) (a : Alt) :
    pubList (updatePosition g std now st a) = pubList st ∨
    ∃ p, (updatePosition g std now st a).coords.pos = some p ∧ pubList (updatePosition g std now st a) = pubList st ++ [p] := by
  rw [updatePosition_eq]
  cases Coor.update g std now (store st.coords a) with
  | none =>
    left
    cases hp : st.coords.pos with
    | none => simp [pubList, hp]
    | some p => simp only [Option.isSome_some, if_true]; rw [pubList_push]; exact List.append_nil _
  | some t =>
    dsimp only
    split
    · exact Or.inl rfl
    · rw [pubList_push]
      cases ht : t.pos with
      | none => exact Or.inl (List.append_nil _)
      | some p => exact Or.inr ⟨p, rfl, rfl⟩

/-- the track only ever grows at its end -/
theorem track_prefix (g : Geo P D) (std : Bool) (now : Nat) (st : Plane P D) (a : Alt) :
    ∃ ext, ((updatePosition g std now st a).track.getD []) = (st.track.getD []) ++ ext := by
  unfold updatePosition
  dsimp only
  split
  · split
    · exact ⟨[], (List.append_nil _).symm⟩
    · exact ⟨[st.coords], rfl⟩
  · split
    · exact ⟨[st.coords], rfl⟩
    · exact ⟨[], (List.append_nil _).symm⟩

/-- **the text rendering of the tracker lists exactly the aircraft with details, each once, in address order** -/
theorem display_iff_details (s : Airplanes P D) (k : Nat) : k ∈ displayKeys s ↔ (∃ p, (k, p) ∈ s) ∧ hasDetails s k = true := by
  unfold displayKeys
  simp only [List.mem_map, List.mem_filter]
  constructor
  · rintro ⟨⟨k', p⟩, ⟨hm, hd⟩, rfl⟩; exact ⟨⟨p, hm⟩, hd⟩
  · rintro ⟨⟨p, hm⟩, hd⟩; exact ⟨(k, p), ⟨hm, hd⟩, rfl⟩

theorem display_is_sublist_of_keys (s : Airplanes P D) : (displayKeys s).Sublist (s.map (·.1)) :=
  List.Sublist.map _ List.filter_sublist

end Adsb.C14
