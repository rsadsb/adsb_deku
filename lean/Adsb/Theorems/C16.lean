import Adsb.Client
/-! # C16 — the clients treat the feed as a byte stream -/

namespace Adsb.C16

/-- splitting is compositional: the lines of `a ++ b` are the lines of `a`, then the lines of (remainder of `a`) ++ `b` -/
theorem splitLines_append (a b : List UInt8) :
    splitLines (a ++ b) = ((splitLines a).1 ++ (splitLines ((splitLines a).2 ++ b)).1, (splitLines ((splitLines a).2 ++ b)).2) := by
  fun_induction splitLines a <;> simp_all [splitLines]

/-- the lines consist of the bytes of the stream, in order: nothing is lost, duplicated or reordered -/
theorem splitLines_flatten (bs : List UInt8) : (splitLines bs).1.flatten ++ (splitLines bs).2 = bs := by
  fun_induction splitLines bs <;> simp_all

/-- the remainder of a split has no complete line left -/
theorem splitLines_rem (bs : List UInt8) : splitLines (splitLines bs).2 = ([], (splitLines bs).2) := by
  fun_induction splitLines bs <;> simp_all [splitLines]

/-- every complete line ends with the newline -/
theorem splitLines_lines_end (bs : List UInt8) : ∀ l ∈ (splitLines bs).1, l.getLast? = some NL := by
  fun_induction splitLines bs with
  | case1 => simp
  | case2 rest ls r h ih => simpa [h] using ih
  | case3 b rest r hb h ih => simp
  | case4 b rest r hb l ls h ih =>
    rw [h] at ih
    have hl := ih l List.mem_cons_self
    cases l with
    | nil => simp at hl
    | cons y ys => simpa [List.getLast?_cons_cons, hl] using fun a ha => ih a (List.mem_cons_of_mem _ ha)

/-- events before the end of the stream -/
def live : List Ev → Prop
  | [] => True
  | .eof :: _ => False
  | _ :: rest => live rest

/-- **every complete line is processed exactly once and in order, however the stream is segmented or delayed**. The invariant
of the loop: a state that has seen the bytes `pre` since the connection began (pending input = their unterminated rest,
outputs = `o` then their complete lines) has, after live events, seen `pre ++ streamOf evs`. -/
theorem foldl_live {Out : Type} (process : List UInt8 → Out) (evs : List Ev) (h : live evs) (s : CS Out) (pre : List UInt8) (o : List Out)
    (hi : s.input = (splitLines pre).2) (ho : s.outs = o ++ (splitLines pre).1.map process) :
    evs.foldl (clientStep process) s =
      { s with input := (splitLines (pre ++ streamOf evs)).2, outs := o ++ (splitLines (pre ++ streamOf evs)).1.map process } := by
  induction evs generalizing s pre with
  | nil => simp [streamOf, ← hi, ← ho]
  | cons e rest ih =>
    cases e with
    | eof => exact h.elim
    | gap => exact ih h s pre hi ho
    | chunk bs =>
      -- one chunk: the state tracks `pre ++ bs`, by `splitLines_append`
      have a := splitLines_append pre bs
      rw [List.foldl_cons, ih h (clientStep process s (.chunk bs)) (pre ++ bs)
        (by simp [clientStep, hi, a]) (by simp [clientStep, hi, ho, a])]
      simp [clientStep, streamOf]

/-- from the start of the connection: the outputs are exactly the complete lines of the stream, processed once, in order -/
theorem lines_once_in_order {Out : Type} (process : List UInt8 → Out) (evs : List Ev) (h : live evs) :
    (clientRun process evs).outs = (splitLines (streamOf evs)).1.map process ∧
    (clientRun process evs).input = (splitLines (streamOf evs)).2 := by
  simp [clientRun, foldl_live process evs h {} [] [] rfl rfl]

/-- **segmentation independence**: two event lists carrying the same byte stream produce the same outputs -/
theorem segmentation_independent {Out : Type} (process : List UInt8 → Out) (e1 e2 : List Ev) (h1 : live e1) (h2 : live e2)
    (hs : streamOf e1 = streamOf e2) : (clientRun process e1).outs = (clientRun process e2).outs := by
  rw [(lines_once_in_order process e1 h1).1, (lines_once_in_order process e2 h2).1, hs]

/-- an unterminated partial line at the end of the stream is never processed -/
theorem eof_discards_partial {Out : Type} (process : List UInt8 → Out) (s : CS Out) :
    (clientStep process s .eof).outs = s.outs ∧ (clientStep process s .eof).input = [] := ⟨rfl, rfl⟩

/-- **malformed lines are skipped**: `parse_line` is total — every byte string is either a frame's bytes or skipped;
the too-short, odd-length, non-hex and all-zero lines are among the skipped -/
theorem malformed_skipped :
    parseLine [] = none ∧ parseLine [NL] = none ∧ parseLine [42, NL] = none ∧ parseLine [42, 59, NL] = none ∧
    parseLine [42, 56, 59, NL] = none ∧ parseLine [42, 122, 122, 59, NL] = none ∧ parseLine [42, 48, 48, 48, 48, 59, NL] = none := by
  decide +kernel

/-- a well-formed line `*<hex>;\n` yields the bytes of its hex text -/
theorem wellformed_parsed : parseLine [42, 56, 100, 52, 48, 59, NL] = some [0x8d, 0x40] := by decide +kernel

/-! ## radar: `--limit-parsing`, `--retry-tcp` -/

/-- **`--limit-parsing` only filters**: a line is handed on with the option exactly when it is handed on without it and is a DF17
frame; in particular whether a line is processed never depends on the lines before it -/
theorem limit_parsing_only_filters (line : List UInt8) :
    radarProcess true line = (radarProcess false line).filter (fun bytes => (bytes.headD 0).toNat / 8 == 17) := by
  unfold radarProcess
  cases parseLine line <;> simp [Option.filter]

/-- **what `parse_line` hands on is never empty** — the all-zero test rejects the empty payload too (`*;`), and that is the only thing that
makes the `bytes[0]` of the `--limit-parsing` filter safe. The model writes that index as `headD 0`; with this theorem the default is never
used, so the totalised definition does not hide a panic (seed C16_f narrowed the test to non-empty payloads and `*;` crashed the client). -/
theorem parse_line_nonempty (line : List UInt8) (bytes : List UInt8) (h : parseLine line = some bytes) : bytes ≠ [] := by
  rintro rfl
  simp [parseLine, Option.bind_eq_some_iff] at h

/-- the index of the `--limit-parsing` filter is in bounds for every line that reaches it -/
theorem limit_filter_index_in_bounds (line : List UInt8) (bytes : List UInt8) (h : parseLine line = some bytes) : 0 < bytes.length :=
  List.length_pos_iff.mpr (parse_line_nonempty line bytes h)

/-- non-vacuity: `*8d;` is handed on; `*;` and the all-zero payload `*0000;` are not (bytes: `*` 42, `8` 56, `d` 100, `0` 48, `;` 59, newline 10) -/
example : parseLine [42, 56, 100, 59, 10] = some [0x8d] ∧ parseLine [42, 59, 10] = none ∧ parseLine [42, 48, 48, 48, 48, 59, 10] = none := by decide +kernel

/-- over a whole connection: the frames radar decodes are the complete lines of the stream, parsed and filtered, once and in order -/
theorem radar_stream (limit : Bool) (evs : List Ev) (h : live evs) :
    (clientRun (radarProcess limit) evs).outs = (splitLines (streamOf evs)).1.map (radarProcess limit) :=
  (lines_once_in_order (radarProcess limit) evs h).1

theorem sessions_from {Out : Type} (process : List UInt8 → Out) (sessions : List (List Ev)) (h : ∀ evs ∈ sessions, live evs)
    (s : CS Out) (hs : s.input = []) :
    (sessions.foldl (fun s evs => clientStep process (evs.foldl (clientStep process) { s with ended := false }) .eof) s).outs
      = s.outs ++ (sessions.map (fun evs => (splitLines (streamOf evs)).1.map process)).flatten := by
  induction sessions generalizing s with
  | nil => simp
  | cons evs rest ih =>
    rw [List.forall_mem_cons] at h
    rw [List.foldl_cons, ih h.2, foldl_live process evs h.1 { s with ended := false } [] s.outs hs (by simp [splitLines])]
    · simp [clientStep]
    · rfl

/-- **reconnecting keeps everything and loses nothing but the fragment of the dropped connection**: with `--retry-tcp` the outputs after
any number of connections are the complete lines of the first connection's stream, then those of the second, … — each exactly once, in
order; the unterminated fragment at the end of a dropped connection is never joined with the next connection's first line -/
theorem retry_processes_every_connection {Out : Type} (process : List UInt8 → Out) (sessions : List (List Ev))
    (h : ∀ evs ∈ sessions, live evs) :
    (sessionsRun process sessions).outs = (sessions.map (fun evs => (splitLines (streamOf evs)).1.map process)).flatten := by
  simpa [sessionsRun] using sessions_from process sessions h {} rfl

/-- the scenario of seed C16_b as an instance: a fragment, a drop, then a complete line — the line is processed, alone -/
example : (sessionsRun (fun l => l) [[.chunk [42, 56]], [.chunk [42, 57, 59, NL]]]).outs = [[42, 57, 59, NL]] := by decide +kernel

end Adsb.C16
