import Adsb.Velocity
import Mathlib.Analysis.SpecialFunctions.Complex.Arg
/-! # C07 (part 2) — track and ground speed over the reals (Mathlib)

`headingG` / `speedG` are the model of the track / ground-speed part of `AirborneVelocity::calculate` (generic in the
number type; the driver and the renderer evaluate them over `Float`, tied to the implementation by the `V` operations).
Here they are instantiated with `ℝ`, `atan2 y x = arg (x + y·i)` and `Real.sqrt`, and related to a specification
written independently of `atan2`: *the track is the angle θ ∈ [0°, 360°) with `east = speed·sin θ`, `north = speed·cos θ`*.
Not covered: the `f64`/`f32` rounding of the same expressions (numeric tie; the 360.0-after-rounding case is in the
correspondence oracle). -/

namespace Adsb.C07b
open Real

noncomputable def realTrack : TrackOps ℝ :=
  { add := (· + ·), mul := (· * ·), div := (· / ·), lit := fun n => (n : ℝ), ofInt := fun i => (i : ℝ), pi := π,
    atan2 := fun y x => Complex.arg ⟨x, y⟩, sqrt := Real.sqrt, neg? := fun h => decide (h < 0) }

/-- the track angle in degrees -/
noncomputable def heading (v : Velocity) : ℝ := headingG realTrack v
/-- the ground speed in knots -/
noncomputable def speed (v : Velocity) : ℝ := speedG realTrack v

/-- the complex number `north + east·i` whose argument is the track -/
noncomputable def vec (v : Velocity) : ℂ := ⟨(v.vNs : ℝ), (v.vEw : ℝ)⟩

theorem heading_eq (v : Velocity) :
    heading v = if Complex.arg (vec v) * (360 / (2 * π)) < 0 then Complex.arg (vec v) * (360 / (2 * π)) + 360
                else Complex.arg (vec v) * (360 / (2 * π)) := by
  unfold heading headingG realTrack vec
  simp only [Nat.cast_ofNat, decide_eq_true_eq]

theorem speed_eq (v : Velocity) : speed v = ‖vec v‖ := by
  rw [Complex.norm_def, Complex.normSq_apply, add_comm]; rfl

/-- **ground speed is the Euclidean norm of the two components** -/
theorem speed_is_norm (v : Velocity) : 0 ≤ speed v ∧ speed v * speed v = (v.vEw : ℝ) * v.vEw + (v.vNs : ℝ) * v.vNs := by
  rw [speed_eq, Complex.norm_mul_self_eq_normSq, Complex.normSq_apply, add_comm]
  exact ⟨norm_nonneg _, rfl⟩

/-- `[0, 2π)` holds one representative of every angle -/
theorem angle_unique {x y : ℝ} (hx0 : 0 ≤ x) (hx1 : x < 2 * π) (hy0 : 0 ≤ y) (hy1 : y < 2 * π)
    (hs : sin x = sin y) (hc : cos x = cos y) : x = y :=
  haveI : Fact (0 < 2 * π) := ⟨two_pi_pos⟩
  (AddCircle.coe_eq_coe_iff_of_mem_Ico (a := 0) ⟨hx0, by rwa [zero_add]⟩ ⟨hy0, by rwa [zero_add]⟩).mp (Real.Angle.cos_sin_inj hc hs)

theorem deg_range (t : ℝ) : (0 ≤ t * (π / 180) ∧ t * (π / 180) < 2 * π) ↔ (0 ≤ t ∧ t < 360) := by
  have hk : (0 : ℝ) < π / 180 := by positivity
  rw [show 2 * π = 360 * (π / 180) by ring, mul_nonneg_iff_of_pos_right hk, mul_lt_mul_iff_left₀ hk]

/-- the track in radians: `arg (north + east·i)` moved into [0, 2π) -/
noncomputable def rho (v : Velocity) : ℝ := if Complex.arg (vec v) < 0 then Complex.arg (vec v) + 2 * π else Complex.arg (vec v)

theorem rho_range (v : Velocity) : 0 ≤ rho v ∧ rho v < 2 * π := by
  have hp := Real.pi_pos
  have h1 := Complex.neg_pi_lt_arg (vec v)
  have h2 := Complex.arg_le_pi (vec v)
  unfold rho; split <;> constructor <;> linarith

theorem rho_sin_cos (v : Velocity) : sin (rho v) = sin (Complex.arg (vec v)) ∧ cos (rho v) = cos (Complex.arg (vec v)) := by
  unfold rho; split
  exacts [⟨sin_add_two_pi _, cos_add_two_pi _⟩, ⟨rfl, rfl⟩]

/-- the one conversion fact: the track in degrees is `rho` in degrees -/
theorem heading_rad (v : Velocity) : heading v * (π / 180) = rho v := by
  have hpos : (0 : ℝ) < 360 / (2 * π) := by positivity
  have e : 360 / (2 * π) * (π / 180) = 1 := by field_simp; norm_num
  rw [heading_eq, rho]
  simp only [mul_neg_iff, hpos, not_lt_of_gt hpos, and_true, and_false, false_or]
  split <;> linear_combination Complex.arg (vec v) * e

/-- **the track lies in [0°, 360°)** -/
theorem heading_range (v : Velocity) : 0 ≤ heading v ∧ heading v < 360 :=
  (deg_range _).mp (heading_rad v ▸ rho_range v)

/-- **the track is the direction of the velocity vector: east = speed·sin(track), north = speed·cos(track)** -/
theorem track_polar (v : Velocity) :
    (v.vEw : ℝ) = speed v * sin (heading v * (π / 180)) ∧ (v.vNs : ℝ) = speed v * cos (heading v * (π / 180)) := by
  rw [heading_rad, (rho_sin_cos v).1, (rho_sin_cos v).2, speed_eq]
  exact ⟨(Complex.norm_mul_sin_arg (vec v)).symm, (Complex.norm_mul_cos_arg (vec v)).symm⟩

/-- **the track is the only such angle**: any θ ∈ [0°, 360°) with `east = speed·sin θ`, `north = speed·cos θ` is the
reported track, whenever the aircraft moves at all -/
theorem track_unique (v : Velocity) (θ : ℝ) (h0 : 0 ≤ θ) (h1 : θ < 360) (hv : 0 < speed v)
    (he : (v.vEw : ℝ) = speed v * sin (θ * (π / 180))) (hn : (v.vNs : ℝ) = speed v * cos (θ * (π / 180))) :
    θ = heading v := by
  obtain ⟨pe, pn⟩ := track_polar v
  obtain ⟨t0, t1⟩ := (deg_range θ).mpr ⟨h0, h1⟩
  obtain ⟨r0, r1⟩ := (deg_range _).mpr (heading_range v)
  exact mul_right_cancel₀ (by positivity : π / 180 ≠ 0) (angle_unique t0 t1 r0 r1
    (mul_left_cancel₀ hv.ne' (he.symm.trans pe)) (mul_left_cancel₀ hv.ne' (hn.symm.trans pn)))

/-- due north is 0° (a concrete instance, non-vacuity) -/
example : heading { vEw := 0, vNs := 5, vrate := 0 } = 0 := by
  rw [heading_eq]; simp [vec, show (⟨5, 0⟩ : ℂ) = ((5 : ℝ) : ℂ) from by apply Complex.ext <;> simp]

end Adsb.C07b
