import Adsb.Ui
import Adsb.App
import Adsb.Theorems.C13
/-! # C17 — no operator action crashes radar

Each handler has one statement `…_spec : Res.Safe pre P x` (`Res.lean`): it does not panic under `pre` (the negation of the one guard that can panic),
and the state it returns satisfies `P` (what the handler leaves alone) with or without `pre`. The two loops are sequences
(`handleBatch_cons`, `runIters_cons`), so the statements about batches and runs follow from those about one event by `Res.Safe.bind`,
`Res.All.bind` and `Res.NoPanic.bind`. -/

namespace Adsb.C17

/-- the selected row, 0 when there is none -/
def selVal (ui : UI) : Nat := ui.selected.getD 0

def ButtonsOk (buttons : Option (Rect × Rect × Rect)) : Prop :=
  ∀ b0 b1 b2, buttons = some (b0, b1, b2) → b0.y + b0.h ≤ u16Max ∧ b1.y + b0.h ≤ u16Max ∧ b2.y + b0.h ≤ u16Max

def evCount : List Iter → Nat
  | [] => 0
  | it :: rest => it.events.length + evCount rest

/-- an event that does not ask to quit: anything but `q` / Ctrl-C -/
def noQuitKey : Event → Prop
  | .key (.char c ctrl) => c ≠ 'q' ∧ ¬ (c = 'c' ∧ ctrl = true)
  | _ => True

section
variable {rows : Nat} {hd : Nat → Bool} {b : Option (Rect × Rect × Rect)} {lb : Nat}

theorem handleBatch_cons (ui : UI) (e : Event) (es : List Event) :
    handleBatch ui (e :: es) rows hd b lb = handleEvent ui e rows hd b lb >>= fun u => handleBatch u es rows hd b lb := by
  rw [handleBatch]; cases handleEvent ui e rows hd b lb <;> rfl

theorem runIters_cons (ui : UI) (it : Iter) (its : List Iter) :
    runIters ui (it :: its) = handleBatch (drawClamp ui it.rows) it.events it.rows it.hd it.buttons it.lb >>= fun u =>
      if u.quit then .ok u else runIters u its := by
  rw [runIters]; cases handleBatch (drawClamp ui it.rows) it.events it.rows it.hd it.buttons it.lb <;> rfl

/-- `ui'` differs from `ui` in the view only: same table selection, same quit flag -/
def SameCtl (ui ui' : UI) : Prop := ui'.selected = ui.selected ∧ ui'.quit = ui.quit

/-- the only panic of the mouse handler is the `u16` sum of the hit boxes -/
theorem mouse_spec (ui : UI) (m : Mouse) : Res.Safe (ButtonsOk b) (SameCtl ui) (handleMouse ui m b lb) := by
  unfold handleMouse
  cases m with
  | down col row =>
    dsimp only
    -- a click on the tab bar changes `tab` only; the buttons go on from there
    generalize hu : (if 1 ≤ row ∧ row ≤ 3 then _ else ui : UI) = u1
    have h1 : SameCtl ui u1 := by
      subst hu; repeat' apply ite_ind (P := SameCtl ui)
      all_goals exact ⟨rfl, rfl⟩
    rcases b with _ | ⟨b0, b1, b2⟩
    · exact .ok h1
    · refine .guard (fun hb => by have := hb b0 b1 b2 rfl; omega) ?_; repeat' apply Res.Safe.ite
      all_goals exact .ok h1
  | drag col row =>
    iterate 3 refine .ite (.ok ⟨rfl, rfl⟩) ?_
    split <;> exact .ok ⟨rfl, rfl⟩
  | _ => exact .ok ⟨rfl, rfl⟩

/-- the character keys leave the controls alone, except that `q` / Ctrl-C (the keys that also quit the waiting screen) set quit -/
theorem char_frame (ui : UI) (c : Char) (ctrl : Bool) :
    (handleChar ui c ctrl).selected = ui.selected ∧ (handleChar ui c ctrl).quit = (waitQuit (.char c ctrl) || ui.quit) := by
  unfold handleChar; dsimp only [waitQuit]
  by_cases hq : c = 'q'
  · rw [if_pos hq, decide_eq_true hq]; exact ⟨rfl, rfl⟩
  rw [if_neg hq, decide_eq_false hq]
  by_cases hc : c = 'c'
  · rw [if_pos hc, decide_eq_true hc]; cases ctrl <;> exact ⟨rfl, rfl⟩
  rw [if_neg hc, decide_eq_false hc]
  show SameCtl ui _
  repeat' apply ite_ind (P := SameCtl ui)
  all_goals exact ⟨rfl, rfl⟩

theorem selVal_same {ui u : UI} (h : u.selected = ui.selected) : selVal u ≤ selVal ui + 1 := by
  rw [selVal, h]; exact Nat.le_succ _

/-- the only panic of the key handler is `selected + 1` at `usize::MAX` -/
theorem key_spec (ui : UI) (k : Key) :
    Res.Safe (selVal ui < usizeMax) (fun ui' => selVal ui' ≤ selVal ui + 1 ∧ ui'.quit = (waitQuit k || ui.quit)) (handleKey ui k rows hd) := by
  -- but for the character keys `waitQuit k` is `false`, and the quit flag stays by `rfl`
  unfold handleKey
  cases k with
  | f n => rcases n with _ | _ | _ | _ | _ | _ | n <;> exact .ok ⟨selVal_same rfl, rfl⟩
  | char c ctrl => exact .ok ⟨selVal_same (char_frame ui c ctrl).1, (char_frame ui c ctrl).2⟩
  | up =>
    refine .ite (.ok ⟨selVal_same rfl, rfl⟩) <| .ite (.ok ⟨?_, rfl⟩) (.ok ⟨selVal_same rfl, rfl⟩)
    unfold selVal; cases ui.selected <;> simp only [Option.getD] <;> omega
  | down =>
    refine .ite (.ok ⟨selVal_same rfl, rfl⟩) <| .ite ?_ (.ok ⟨selVal_same rfl, rfl⟩)
    cases hs : ui.selected with
    | none => exact .ok ⟨Nat.zero_le _, rfl⟩
    | some s =>
      refine .guard (fun h => Nat.ne_of_lt ?_) (.ok ⟨?_, rfl⟩)
      · rwa [selVal, hs] at h
      · rw [selVal, selVal, hs]; exact Nat.le_refl _
  | enter =>
    refine .ite (.ok ⟨selVal_same rfl, rfl⟩) <| .ite ?_ (.ok ⟨selVal_same rfl, rfl⟩)
    split
    · exact .ite (.ok ⟨selVal_same rfl, rfl⟩) (.ok ⟨selVal_same rfl, rfl⟩)
    · exact .ok ⟨selVal_same rfl, rfl⟩
  | left | right => dsimp only; split <;> exact .ok ⟨selVal_same rfl, rfl⟩
  | _ => exact .ok ⟨selVal_same rfl, rfl⟩

/-- what `n` events may do to the controls, `q`: none of them asks to quit -/
def Moves (n : Nat) (q : Prop) (ui ui' : UI) : Prop := selVal ui' ≤ selVal ui + n ∧ (q → ui'.quit = ui.quit)

theorem moves_trans {n m : Nat} {p q r : Prop} {a b c : UI} (h : Moves n p a b) (h' : Moves m q b c) (hr : r → p ∧ q) :
    Moves (m + n) r a c :=
  ⟨by have := h.1; have := h'.1; omega, fun x => (h'.2 (hr x).2).trans (h.2 (hr x).1)⟩

theorem noQuitKey_key {k : Key} (h : noQuitKey (.key k)) : waitQuit k = false := by
  cases k <;> try rfl
  next c ctrl => unfold waitQuit; have := h.1; have := h.2; cases ctrl <;> simp_all

theorem event_spec (ui : UI) (e : Event) :
    Res.Safe (selVal ui < usizeMax ∧ ButtonsOk b) (Moves 1 (noQuitKey e) ui) (handleEvent ui e rows hd b lb) := by
  cases e with
  | key k => exact (key_spec ui k).imp (·.1) fun u h => ⟨h.1, fun hq => by rw [h.2, noQuitKey_key hq]; rfl⟩
  | mouse m => exact (mouse_spec ui m).imp (·.2) fun u h => ⟨selVal_same h.1, fun _ => h.2⟩
  | resize => exact .ok ⟨Nat.le_succ _, fun _ => rfl⟩

theorem batch_spec (es : List Event) : ∀ ui : UI,
    Res.Safe (selVal ui + es.length < usizeMax ∧ ButtonsOk b) (Moves es.length (∀ e ∈ es, noQuitKey e) ui) (handleBatch ui es rows hd b lb) := by
  induction es with
  | nil => exact fun ui => .ok ⟨Nat.le_refl _, fun _ => rfl⟩
  | cons e es ih =>
    intro ui
    rw [handleBatch_cons, List.length_cons]
    refine ((event_spec ui e).imp (fun h => ⟨by omega, h.2⟩) fun _ h => h).bind fun u hu => ?_
    exact (ih u).imp (fun h => ⟨by have := hu.1; omega, h.2⟩) fun u' hu' => moves_trans hu hu' List.forall_mem_cons.mp

theorem clamp_moves (ui : UI) (rows : Nat) : Moves 0 True ui (drawClamp ui rows) := by
  have refl : Moves 0 True ui ui := ⟨Nat.le_refl _, fun _ => rfl⟩
  unfold drawClamp
  refine ite_ind (P := Moves 0 True ui) ?_ refl
  cases hs : ui.selected with
  | none => exact refl
  | some s =>
    dsimp only
    split
    · refine ⟨?_, fun _ => rfl⟩
      rw [selVal, selVal, hs]; dsimp only
      split <;> simp only [Option.getD] <;> omega
    · exact refl

end

/-- **no history of operator actions crashes the handlers**: for every sequence of loop iterations - any number of rows at each draw
(also none, also shrinking), any batches of keys / mouse events / resizes, touchscreen on or off - with fewer than 2^64 events in
total, the run ends without a panic. -/
theorem run_total (its : List Iter) : ∀ (ui : UI), selVal ui + evCount its < usizeMax → (∀ it ∈ its, ButtonsOk it.buttons) →
    (runIters ui its).NoPanic := by
  induction its with
  | nil => intro ui _ _; trivial
  | cons it rest ih =>
    intro ui h hb
    rw [evCount] at h
    rw [List.forall_mem_cons] at hb
    have hc := (clamp_moves ui it.rows).1
    rw [runIters_cons]
    exact ((batch_spec it.events _).2 ⟨by omega, hb.1⟩).bind (batch_spec it.events _).1 fun u hu =>
      ite_ind trivial <| ih u (by have := hu.1; omega) hb.2

theorem run_frame (its : List Iter) : ∀ ui : UI, (∀ it ∈ its, ∀ e ∈ it.events, noQuitKey e) →
    (runIters ui its).All fun ui' => ui'.quit = ui.quit := by
  induction its with
  | nil => exact fun ui _ => rfl
  | cons it rest ih =>
    intro ui hq
    rw [List.forall_mem_cons] at hq
    rw [runIters_cons]
    refine (batch_spec it.events _).1.bind fun u hu => ?_
    have e1 : u.quit = ui.quit := (hu.2 hq.1).trans ((clamp_moves ui it.rows).2 trivial)
    exact ite_ind e1 <| (ih u hq.2).imp fun _ h => h.trans e1

/-- **the client keeps running until quit is requested**: a history without `q` / Ctrl-C never sets the quit flag -/
theorem run_keeps_running (its : List Iter) : ∀ (ui ui' : UI), ui.quit = false → (∀ it ∈ its, ∀ e ∈ it.events, noQuitKey e) →
    runIters ui its = .ok ui' → ui'.quit = false :=
  fun ui _ h hq hr => (Res.All_ok (run_frame its ui hq) hr).trans h

/-- quit is requested only by `q` or Ctrl-C: every other key leaves the quit flag as it was -/
theorem quit_only_on_request (ui ui' : UI) (k : Key) (rows : Nat) (hd : Nat → Bool) (h : handleKey ui k rows hd = .ok ui')
    (hk : ∀ ctrl, k ≠ .char 'q' ctrl) (hc : k ≠ .char 'c' true) : ui'.quit = ui.quit :=
  (Res.All_ok (event_spec (b := none) (lb := 0) ui (.key k)).1 h).2 <| by
    cases k <;> try trivial
    next c ctrl => exact ⟨fun hq => hk ctrl (by rw [hq]), fun hq => hc (by rw [hq.1, hq.2])⟩

/-- the draw clamp leaves the selection inside the table (or empty when there are no rows): with it, `Enter` always finds a row -/
theorem clamp_in_range (ui : UI) (rows : Nat) (h : ui.tab = .airplanes) :
    ∀ s, (drawClamp ui rows).selected = some s → s < rows := by
  intro s
  unfold drawClamp
  rw [if_pos h]
  split
  · next t ht =>
    split
    · dsimp only; split <;> intro hs <;> cases hs; omega
    · intro hs; rw [ht] at hs; cases hs; omega
  · next hn => intro hs; rw [hn] at hs; cases hs

/-- the clamp before the repair panicked exactly on an empty table with a selection (finding F10) -/
theorem old_clamp_panics (ui : UI) (s : Nat) (h : ui.tab = .airplanes) (hs : ui.selected = some s) :
    (drawClampOld ui 0).isPanic = true := by
  unfold drawClampOld; rw [if_pos h, hs]; rfl

/-- the repaired clamp agrees with the old one wherever the old one did not panic -/
theorem clamp_agrees (ui : UI) (rows : Nat) (h : 0 < rows) : drawClampOld ui rows = .ok (drawClamp ui rows) := by
  -- with a row in the table the old test `s > rows - 1` is today's `s ≥ rows`
  have e : ∀ s, s > rows - 1 ↔ s ≥ rows := fun s => by omega
  unfold drawClampOld drawClamp
  split
  · cases ui.selected with
    | none => rfl
    | some s => simp only [if_neg (Nat.ne_of_gt h), e]
  · rfl

/-- the statistics tab unwraps the position of the farthest record, which exists whenever a distance does (invariant of C13) -/
theorem stats_unwrap_safe {P D : Type} (g : Geo P D) (c : Coor P D) (h : C13.CoorInv g c) (hk : c.kd.isSome = true) : c.pos.isSome = true := by
  rw [h.1]; exact hk

/-- non-vacuity: a concrete history on an empty table (select, select, Enter, tab switches) runs to a state -/
example : (runIters {} [⟨0, fun _ => false, none, 1, [.key (.f 3), .key .down, .key .down, .key .enter]⟩,
                        ⟨2, fun _ => true, none, 1, [.key .down, .key .enter, .mouse (.drag 20 9), .mouse (.drag 22 10)]⟩]).isOk = true := by decide +kernel

/-- **whenever `main` exits, the terminal is as it was found**: cooked, mouse reporting off, cursor visible - on every exit path
(quit while waiting for the connection, quit in the loop, disconnect) -/
theorem exit_restores_terminal (waitKeys : List Key) (connects : Bool) (its : List Iter) (disc : Bool) (t : Term)
    (h : mainRun {} waitKeys connects its disc = .ok (some t)) : t = {} := by
  -- every path of `mainRun` ends in `some t.cleanup` or in `none`
  refine Res.All_ok (P := fun r => ∀ t, r = some t → t = {}) ?_ h t rfl
  unfold mainRun
  refine ite_ind (fun _ e => by cases e; rfl) <| ite_ind (fun _ e => nomatch e) ?_
  cases runIters {} its with
  | ok ui => exact ite_ind (fun _ e => by cases e; rfl) fun _ e => nomatch e
  | _ => trivial

/-- and `main` exits when quit is requested while it waits for the connection -/
theorem quit_while_waiting (waitKeys : List Key) (connects : Bool) (its : List Iter) (disc : Bool) (h : waitKeys.any waitQuit = true) :
    mainRun {} waitKeys connects its disc = .ok (some {}) := by
  unfold mainRun; simp only [h, if_true]; rfl

/-! ## the Coverage tab -/

/-- every counter stays a `u32`, whatever traffic is fed for however long -/
theorem cover_counters_bounded (cells : List Cell) (key : Int × Int) (icao : Nat) (h : ∀ c ∈ cells, c.seen ≤ u32Max) :
    ∀ c ∈ coverOne cells key icao, c.seen ≤ u32Max := by
  fun_induction coverOne cells key icao with
  | case1 => simp
  | case2 c cs _ =>
    rw [List.forall_mem_cons] at h ⊢
    exact ⟨Nat.min_le_right .., h.2⟩
  | case3 => exact h
  | case4 c cs _ _ ih =>
    rw [List.forall_mem_cons] at h ⊢
    exact ⟨h.1, ih h.2⟩

theorem cover_pass_bounded (ps : List ((Int × Int) × Nat)) : ∀ (cells : List Cell), (∀ c ∈ cells, c.seen ≤ u32Max) →
    ∀ c ∈ coverPass cells ps, c.seen ≤ u32Max := by
  induction ps with
  | nil => exact fun _ h => h
  | cons p ps ih => exact fun cells h => ih _ (cover_counters_bounded cells p.1 p.2 h)

theorem cap_eq_min (n : Nat) : (if n > 255 then 255 else n) = min n 255 := by
  split <;> omega

theorem min_sat {a u c : Nat} (h : c ≤ u) : min (min a u) c = min a c := by rw [Nat.min_assoc, Nat.min_eq_right h]

/-- today's brightness in closed form: the cap at 255 lies below the saturation points of both `u32` operations -/
theorem cellColour_eq (seen : Nat) : cellColour seen = .ok (min (100 + seen * 50) 255) := by
  simp only [cellColour, cap_eq_min]
  rw [min_sat (by decide), ← Nat.add_min_add_right, min_sat (by decide), Nat.add_comm]

/-- **drawing a cell never panics and yields a colour component in 100..255**, for every counter value -/
theorem cover_colour_total (seen : Nat) : ∃ c, cellColour seen = .ok c ∧ 100 ≤ c ∧ c ≤ 255 :=
  ⟨_, cellColour_eq seen, by omega, Nat.min_le_right ..⟩

/-- brighter for every further aircraft, up to white -/
theorem cover_colour_mono (a b : Nat) (h : a ≤ b) : ∀ ca cb, cellColour a = .ok ca → cellColour b = .ok cb → ca ≤ cb := by
  intro ca cb ha hb
  rw [cellColour_eq] at ha hb
  cases ha; cases hb
  omega

/-- the arithmetic before the repair agreed with today's below the overflow point (`100 + 50·seen ≤ u32::MAX` up to `seen` = 85 899 343) ... -/
theorem cover_colour_old_agrees (seen : Nat) (h : seen ≤ 85899343) : cellColourOld seen = cellColour seen := by
  rw [cellColour_eq, cellColourOld, if_neg (by omega), if_neg (by omega), cap_eq_min]

/-- ... and panicked at it: the finding repaired by /repo commit 3e38a51 (reproduced on the real functions with two aircraft in one cell
and 43 000 000 passes of `populate_coverage`, see /verif/findings/coverage_overflow) -/
theorem cover_colour_old_panics : cellColourOld 85899344 = .panic "coverage.rs: attempt to add with overflow"
    ∧ cellColourOld 85899346 = .panic "coverage.rs: attempt to multiply with overflow" := ⟨rfl, rfl⟩

/-- two aircraft in one cell: the counter grows by two per pass (why the overflow point is reachable at all) -/
example : ((coverPass [{ key := (3910, -7690), seen := 0, icao := 1 }] [((3910, -7690), 1), ((3910, -7690), 2)]).map (·.seen),
           (coverPass (coverPass [{ key := (3910, -7690), seen := 0, icao := 1 }] [((3910, -7690), 1), ((3910, -7690), 2)])
              [((3910, -7690), 1), ((3910, -7690), 2)]).map (·.seen)) = ([1], [3]) := by decide +kernel

/-! ## the statistics counter -/

/-- the statistics tab's total of newly added aircraft: the same three statements as for the tracker's message count (`Theorems/C01`; with `--filter-time=0` every counted frame is a newly
added aircraft; reproduced on the real `Stats::update`, 2^32 calls, 16 s) -/
theorem total_total (n : Nat) (h : n ≤ u32Max) : ∃ m, totalIncr n = .ok m ∧ m ≤ u32Max ∧ n ≤ m := satIncr_spec n h

theorem total_agrees_below (n : Nat) (h : n < u32Max) : totalIncr n = .ok (n + 1) ∧ totalIncrOld n = .ok (n + 1) := incr_below _ n h

theorem total_old_panics : totalIncrOld u32Max = .panic "stats.rs: attempt to add with overflow" := rfl

end Adsb.C17
