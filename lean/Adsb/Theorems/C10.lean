import Adsb.Lemmas.Reject
import Adsb.Spec.Fields
/-! # C10 — interpreted payload fields equal the standard's bit fields, for every type -/

namespace Adsb.C10
open Adsb.Spec

/-- the ME / MB payload of a decoded frame -/
def payloadME : DF → Option ME
  | .adsb _ _ me _ => some me
  | .tisb _ _ me _ => some me
  | _ => none

def payloadBDS : DF → Option BDS
  | .commBAlt _ _ _ _ b => some b
  | .commBId _ _ _ _ b _ => some b
  | _ => none

/-- under DF17 and under DF18 with every control-field type, the decoded ME is the closed form `meAt` -/
theorem decoded_me (B : Buf) (f : Frame) (h : decode B = .ok f) (hdf : DFcode.of B = 17 ∨ DFcode.of B = 18) :
    payloadME f.df = some (meAt B) := by
  obtain ⟨L, _, _, rfl⟩ := decoded B f h
  rcases hdf with c | c
  · exact congrArg payloadME (dfAt_17 B c)
  · exact congrArg payloadME (dfAt_18 B c)

theorem decoded_bds (B : Buf) (f : Frame) (h : decode B = .ok f) (hdf : DFcode.of B = 20 ∨ DFcode.of B = 21) :
    payloadBDS f.df = some (bdsAt B) := by
  obtain ⟨L, _, _, rfl⟩ := decoded B f h
  rcases hdf with c | c
  · exact congrArg payloadBDS (dfAt_20 B c)
  · exact congrArg payloadBDS (dfAt_21 B c)

/-! ## the type code (and subtype) alone selects the variant, as the documented table says -/

inductive Kind where
  | noPosition | ident | surface | airBaro | velocity | airGnss | reserved | surfaceSystemStatus | status | targetState
  | opCoord | opAirborne | opSurface | opReserved
  deriving DecidableEq, Repr

/-- the documented dispatch table (lib.rs module documentation / DO-260B type code table) -/
def Spec.kindOf (tc st : Nat) : Kind :=
  if tc = 0 then .noPosition
  else if 1 ≤ tc ∧ tc ≤ 4 then .ident
  else if 5 ≤ tc ∧ tc ≤ 8 then .surface
  else if 9 ≤ tc ∧ tc ≤ 18 then .airBaro
  else if tc = 19 then .velocity
  else if 20 ≤ tc ∧ tc ≤ 22 then .airGnss
  else if tc = 23 then .reserved
  else if tc = 24 then .surfaceSystemStatus
  else if 25 ≤ tc ∧ tc ≤ 27 then .reserved
  else if tc = 28 then .status
  else if tc = 29 then .targetState
  else if tc = 30 then .opCoord
  else if st = 0 then .opAirborne else if st = 1 then .opSurface else .opReserved

def kind : ME → Kind
  | .noPosition _ => .noPosition | .ident _ => .ident | .surface _ => .surface | .airPosBaro _ => .airBaro
  | .velocity _ => .velocity | .airPosGnss _ => .airGnss | .reserved0 _ => .reserved | .surfaceSystemStatus _ => .surfaceSystemStatus
  | .reserved1 _ => .reserved | .status _ => .status | .tss _ => .targetState | .opCoord _ => .opCoord
  | .opStatus (.airborne _) => .opAirborne | .opStatus (.surface _) => .opSurface | .opStatus (.reserved _ _) => .opReserved

theorem dispatch_table (B : Buf) : kind (meAt B) = Spec.kindOf (TC.ofME B) (OS_ST.ofME B) := by
  show kind (meAt B) = Spec.kindOf (bitsAt B 32 5) (bitsAt B 37 3)
  refine meAt_cases B (motive := fun tc _ me => kind me = Spec.kindOf tc (bitsAt B 37 3)) ?_ rfl rfl ?_ ?_ ?_ rfl rfl ?_ rfl rfl rfl ?_
  -- a range of type codes: the tests of the table before it fail by arithmetic, its own is the hypothesis
  iterate 5
    intro h1 h2
    unfold Spec.kindOf
    repeat rw [if_neg (by omega)]
    rw [if_pos ⟨h1, h2⟩]
    rfl
  · unfold opStatusAt Spec.kindOf
    simp only [Nat.reduceEqDiff, Nat.reduceLeDiff, and_false, if_false]
    split
    · rfl
    · split <;> rfl

/-! ## fields of each interpreted payload, at the positions DO-260B / Doc 9871 assign -/

/-- airborne position (types 9–18, 20–22) -/
theorem airborne_position_fields (B : Buf) :
    altAt B = { tc := TC.ofME B, ss := SS.ofME B, saf := SAF.ofME B, alt := ac12 (ALT.ofME B), t := T.ofME B, f := F.ofME B,
                lat := LAT.ofME B, lon := LON.ofME B } := rfl

/-- surface position (types 5–8): movement, ground-track status and track, time, format, CPR -/
theorem surface_position_fields (B : Buf) :
    surfAt B = { mov := MOV.ofME B, s := TRKS.ofME B, trk := TRK.ofME B, t := T.ofME B, f := F.ofME B,
                 lat := LAT.ofME B, lon := LON.ofME B } := rfl

/-- selected altitude scaling: (N−1)·32 ft, 0 for "no data" -/
def selectedAltitudeFt (n : Nat) : Nat := if n > 1 then (n - 1) * 32 else 0
/-- QNH scaling: 800 + (N−1)·0.8 hPa, N = 0 is "no data" -/
def qnhHpa (n : Nat) : Option Rat := if n = 0 then none else some (800 + ((n : Rat) - 1) * (4 / 5))
/-- heading scaling: N·180/256 degrees -/
def headingDeg (n : Nat) : Rat := (n : Rat) * 180 / 256

/-- target state and status (type 29): every field, incl. the altitude type bit and the 11-bit altitude -/
theorem target_state_fields (B : Buf) :
    tssAt B = { subtype := TSS_ST.ofME B, isFms := TSS_ALTTYPE.ofME B, altitude := selectedAltitudeFt (TSS_ALT.ofME B),
                qnhRaw := TSS_QNH.ofME B, isHeading := TSS_HDGST.ofME B, headingRaw := TSS_HDG.ofME B, nacp := TSS_NACP.ofME B,
                nicbaro := TSS_NICBARO.ofME B, sil := TSS_SIL.ofME B, modeValidity := TSS_MODE.ofME B, autopilot := TSS_AP.ofME B,
                vnav := TSS_VNAV.ofME B, altHold := TSS_ALTHOLD.ofME B, imf := TSS_IMF.ofME B, approach := TSS_APP.ofME B,
                tcas := TSS_TCAS.ofME B, lnav := TSS_LNAV.ofME B } := rfl

/-- operational status, airborne (type 31 subtype 0) -/
theorem opstatus_airborne_fields (B : Buf) :
    opAirAt B = { acas := OS_ACAS.ofME B, cdti := OS_CDTI.ofME B, arv := OS_ARV.ofME B, ts := OS_TS.ofME B, tc := OS_TC.ofME B,
                  om := { ra := OS_RA.ofME B, ident := OS_IDENT.ofME B, atc := OS_ATC.ofME B, saf := OS_SAF.ofME B, sda := OS_SDA.ofME B },
                  version := OS_VER.ofME B, nicA := OS_NICA.ofME B, nacp := OS_NACP.ofME B, gva := OS_GVA.ofME B, sil := OS_SIL.ofME B,
                  nicbaro := OS_NICBARO.ofME B, hrd := OS_HRD.ofME B, silSupp := OS_SILSUPP.ofME B } := rfl

/-- operational status, surface (type 31 subtype 1) -/
theorem opstatus_surface_fields (B : Buf) :
    opSurfAt B = { poe := OS_POA.ofME B, es1090 := OS_ESIN.ofME B, b2low := OS_B2LOW.ofME B, uatIn := OS_UATIN.ofME B,
                   nacv := OS_NACV.ofME B, nicC := OS_NICC.ofME B, lw := OS_LW.ofME B,
                   om := { ra := OS_RA.ofME B, ident := OS_IDENT.ofME B, atc := OS_ATC.ofME B, saf := OS_SAF.ofME B, sda := OS_SDA.ofME B },
                   gpsOffset := OS_ANT.ofME B, version := OS_VER.ofME B, nicA := OS_NICA.ofME B, nacp := OS_NACP.ofME B,
                   sil := OS_SIL.ofME B, nicbaro := OS_NICBARO.ofME B, hrd := OS_HRD.ofME B, silSupp := OS_SILSUPP.ofME B } := rfl

/-- BDS 1,0 data link capability report, every field most significant bit first (incl. the 16-bit DTE array) -/
theorem bds10_fields (B : Buf) :
    dlcAt B = { continuation := DL_CONT.ofME B, overlay := DL_OVERLAY.ofME B, acas := DL_ACAS.ofME B, subnet := DL_SUBNET.ofME B,
                enhanced := DL_ENH.ofME B, specific := DL_SPEC.ofME B, uplinkElm := DL_UELM.ofME B, downlinkElm := DL_DELM.ofME B,
                identCap := DL_IDCAP.ofME B, squitterCap := DL_SQCAP.ofME B, sic := DL_SIC.ofME B, gicb := DL_GICB.ofME B,
                reservedAcas := DL_ACASBITS.ofME B, bitArray := DL_DTE.ofME B } := rfl

/-- which closed form a type code selects -/
theorem payload_of_type (B : Buf) :
    ((9 ≤ TC.ofME B ∧ TC.ofME B ≤ 18) → meAt B = .airPosBaro (altAt B)) ∧
    ((20 ≤ TC.ofME B ∧ TC.ofME B ≤ 22) → meAt B = .airPosGnss (altAt B)) ∧
    ((5 ≤ TC.ofME B ∧ TC.ofME B ≤ 8) → meAt B = .surface (surfAt B)) ∧
    (TC.ofME B = 29 → meAt B = .tss (tssAt B)) ∧
    (TC.ofME B = 31 → OS_ST.ofME B = 0 → meAt B = .opStatus (.airborne (opAirAt B))) ∧
    (TC.ofME B = 31 → OS_ST.ofME B = 1 → meAt B = .opStatus (.surface (opSurfAt B))) ∧
    (BDSCODE.ofME B = 0x10 → bdsAt B = .dataLink (dlcAt B)) := by
  refine ⟨meAt_airPosBaro B, meAt_airPosGnss B, meAt_surface B, ?_, ?_, ?_, ?_⟩
  · intro t; have t' : bitsAt B 32 5 = 29 := t
    simp [meAt, t']
  · intro t s; have t' : bitsAt B 32 5 = 31 := t; have s' : bitsAt B 37 3 = 0 := s
    simp [meAt, t', opStatusAt, s']
  · intro t s; have t' : bitsAt B 32 5 = 31 := t; have s' : bitsAt B 37 3 = 1 := s
    simp [meAt, t', opStatusAt, s']
  · intro b; have b' : bitsAt B 32 8 = 0x10 := b
    simp [bdsAt, b']

/-- a field's value depends on no bit outside the field -/
theorem field_independent (B B' : Buf) (off w : Nat) (h : ∀ i, off ≤ i → i < off + w → B.bit i = B'.bit i) :
    bitsAt B off w = bitsAt B' off w :=
  bitsAt_congr' off w h

/-! ## non-vacuity (tests) -/
example : selectedAltitudeFt 100 = 3168 := by decide
example : kind (meAt ⟨[0x8d, 0xa2, 0xc1, 0xbd, 0x58, 0x7b, 0xa2, 0xad, 0xb3, 0x17, 0x99, 0xcb, 0x80, 0x2b]⟩) = .airBaro := by decide +kernel

end Adsb.C10
