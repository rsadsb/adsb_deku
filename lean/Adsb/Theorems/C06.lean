import Adsb.Lemmas.Reject
import Adsb.Lemmas.Range
import Adsb.Lemmas.Codes
/-! # C06 — every 13-bit and 12-bit altitude code decodes to its Annex 10 altitude -/

namespace Adsb.C06

/-- the library's "no altitude" conventions: 0 for the 13-bit reader, `None` for the 12-bit one -/
def noAlt13 : Option Nat → Nat | some v => v | none => 0

/-- all 8192 13-bit codes: the decoder's function equals the specification, evaluated in its arithmetic form
`Spec.ac13Arith` (`Spec.ac13_eq`) -/
theorem ac13_spec_all : allRange (fun c => ac13 c == noAlt13 (Spec.ac13Arith c)) 0 8192 14 = true := by decide +kernel

theorem ac13_spec (c : Nat) (h : c < 8192) : ac13 c = noAlt13 (Spec.ac13 c) := by
  rw [Spec.ac13_eq]; exact eq_of_beq (allBelow_sound _ 8192 14 ac13_spec_all c h)

theorem representable_some {a : Option Nat} {v : Nat} (h : Spec.representable a = some v) : 0 < v ∧ v < 65536 := by
  unfold Spec.representable at h
  split at h
  · split at h
    · cases h; assumption
    · cases h
  · cases h

/-- every altitude of the specification has passed through `representable` -/
theorem spec_ac13_some {c v : Nat} (h : Spec.ac13 c = some v) : 0 < v ∧ v < 65536 := by
  simp only [Spec.ac13, Option.ite_none_left_eq_some] at h
  obtain ⟨_, _, h⟩ := h
  split at h <;> exact representable_some h

/-- all 4096 12-bit codes, against `Spec.ac12` in its arithmetic form (`Spec.ac12_eq`); a `Some(0)` never occurs -/
theorem ac12_spec_all : allRange (fun c => ac12 c ==
    (if c = 0 then none else Spec.ac13Arith (c / 64 * 128 + c % 64))) 0 4096 13 = true := by
  decide +kernel

theorem ac12_spec (c : Nat) (h : c < 4096) : ac12 c = Spec.ac12 c := by
  rw [Spec.ac12_eq]; exact eq_of_beq (allBelow_sound _ 4096 13 ac12_spec_all c h)

/-- the altitude reported is never a value other than the specified one, and lies in the result type -/
theorem ac13_range (c : Nat) (h : c < 8192) : ac13 c < 65536 := by
  rw [ac13_spec c h]
  cases hs : Spec.ac13 c with
  | none => decide
  | some v => exact (spec_ac13_some hs).2

/-! ## carriers: the code is read from the bits Annex 10 assigns, whatever surrounds them -/

/-- DF0, DF4, DF16, DF20: the altitude is `ac13` of frame bits 20–32 -/
theorem ac13_carried (B : Buf) (f : Frame) (h : decode B = .ok f) :
    (bitsAt B 0 5 = 0 → ∃ vs cc u0 sl u1 ri u2 p, f.df = .shortAirAir vs cc u0 sl u1 ri u2 (ac13 (bitsAt B 19 13)) p) ∧
    (bitsAt B 0 5 = 4 → ∃ fs dr um p, f.df = .survAlt fs dr um (ac13 (bitsAt B 19 13)) p) ∧
    (bitsAt B 0 5 = 16 → ∃ vs s1 sl s2 ri s3 mv p, f.df = .longAirAir vs s1 sl s2 ri s3 (ac13 (bitsAt B 19 13)) mv p) ∧
    (bitsAt B 0 5 = 20 → ∃ fs dr um bds, f.df = .commBAlt fs dr um (ac13 (bitsAt B 19 13)) bds) := by
  obtain ⟨L, _, _, rfl⟩ := decoded B f h
  exact ⟨fun c => ⟨_, _, _, _, _, _, _, _, dfAt_0 B c⟩, fun c => ⟨_, _, _, _, dfAt_4 B c⟩,
    fun c => ⟨_, _, _, _, _, _, _, _, dfAt_16 B c⟩, fun c => ⟨_, _, _, _, dfAt_20 B c⟩⟩

/-- airborne position (type 9–18, 20–22) under DF17 and DF18: the altitude is `ac12` of ME bits 9–20 -/
theorem ac12_carried (B : Buf) (f : Frame) (h : decode B = .ok f)
    (hdf : bitsAt B 0 5 = 17 ∨ bitsAt B 0 5 = 18)
    (htc : (9 ≤ bitsAt B 32 5 ∧ bitsAt B 32 5 ≤ 18) ∨ (20 ≤ bitsAt B 32 5 ∧ bitsAt B 32 5 ≤ 22)) :
    ∃ a : Alt, a.alt = ac12 (bitsAt B 40 12) ∧ a.alt = Spec.ac12 (bitsAt B 40 12) ∧
      ((∃ ca icao pi, f.df = .adsb ca icao (.airPosBaro a) pi) ∨ (∃ ca icao pi, f.df = .adsb ca icao (.airPosGnss a) pi) ∨
       (∃ cf aa pi, f.df = .tisb cf aa (.airPosBaro a) pi) ∨ (∃ cf aa pi, f.df = .tisb cf aa (.airPosGnss a) pi)) := by
  obtain ⟨L, _, _, rfl⟩ := decoded B f h
  refine ⟨altAt B, rfl, ac12_spec _ (bitsAt_lt B 40 12), ?_⟩
  rcases hdf with c | c <;> rcases htc with t | t
  · exact .inl ⟨_, _, _, by rw [dfAt_17 B c, meAt_airPosBaro B t]⟩
  · exact .inr (.inl ⟨_, _, _, by rw [dfAt_17 B c, meAt_airPosGnss B t]⟩)
  · exact .inr (.inr (.inl ⟨_, _, _, by rw [dfAt_18 B c, meAt_airPosBaro B t]⟩))
  · exact .inr (.inr (.inr ⟨_, _, _, by rw [dfAt_18 B c, meAt_airPosGnss B t]⟩))

/-! ## non-vacuity (tests) -/

-- README frame: DF17 type 11, altitude 23650 ft
example : (decode ⟨[0x8d, 0xa2, 0xc1, 0xbd, 0x58, 0x7b, 0xa2, 0xad, 0xb3, 0x17, 0x99, 0xcb, 0x80, 0x2b]⟩).isOk = true := by decide +kernel
example : ac12 (bitsAt ⟨[0x8d, 0xa2, 0xc1, 0xbd, 0x58, 0x7b, 0xa2, 0xad, 0xb3, 0x17, 0x99, 0xcb, 0x80, 0x2b]⟩ 40 12) = some 23650 := by decide +kernel
-- a Gillham code above 65535 ft is "no altitude", not a wrapped value
example : ac13 0x1eaf = 0 := by decide +kernel
example : Spec.gillhamFeet 0x1eaf = some 84100 := by decide +kernel

end Adsb.C06
