import Adsb.Lemmas.TrackerL
/-! # C12 — tracker: one record per announced address, exact accounting, isolation

All theorems hold for every geometry `g` (CPR pairing, distance, range and jump tests), every clock
reading and both build configurations (`std`). -/

namespace Adsb.C12
variable {P D : Type}

/-- what one tracked frame does to the record of its address (independent of every other record) -/
def stepPlane (g : Geo P D) (std : Bool) (now : Nat) (st : Plane P D) (me : ME) : Plane P D :=
  let st := match me with
    | .ident i => { st with callsign := some i.cn }
    | .velocity v => (match v.calc with
        | some r => { st with vel := some r }
        | none => st)
    | .airPosBaro a => updatePosition g std now st a
    | .airPosGnss a => updatePosition g std now st a
    | _ => st
  { st with numMessages := st.numMessages + 1, lastTime := if std then now else st.lastTime }

/-- the payload part of a step (before the message count and the time stamp are updated) -/
def payload (g : Geo P D) (std : Bool) (now : Nat) (st : Plane P D) (me : ME) : Plane P D :=
  match me with
  | .ident i => { st with callsign := some i.cn }
  | .velocity v => (match v.calc with
      | some r => { st with vel := some r }
      | none => st)
  | .airPosBaro a => updatePosition g std now st a
  | .airPosGnss a => updatePosition g std now st a
  | _ => st

/-- `incr_messages` -/
def bump (std : Bool) (now : Nat) (st : Plane P D) : Plane P D :=
  { st with numMessages := st.numMessages + 1, lastTime := if std then now else st.lastTime }

theorem stepPlane_eq (g : Geo P D) (std : Bool) (now : Nat) (st : Plane P D) (me : ME) :
    stepPlane g std now st me = bump std now (payload g std now st me) := rfl

/-- which of four things a payload does depends on the message alone: it leaves the record as it is, sets the callsign, sets the
velocity, or is a position update -/
theorem payload_cases {motive : (Bool → Nat → Plane P D → Plane P D) → Prop} (g : Geo P D) (me : ME)
    (same : motive fun _ _ st => st) (ident : ∀ cn, motive fun _ _ st => { st with callsign := some cn })
    (vel : ∀ r, motive fun _ _ st => { st with vel := some r }) (pos : ∀ a, motive fun std now st => updatePosition g std now st a) :
    motive fun std now st => payload g std now st me := by
  cases me with
  | ident i => exact ident _
  | velocity v =>
    show motive fun _ _ st => match v.calc with | some r => _ | none => _
    cases v.calc with
    | none => exact same
    | some r => exact vel r
  | airPosBaro a | airPosGnss a => exact pos a
  | _ => exact same

theorem stepPlane_numMessages (g : Geo P D) (std : Bool) (now : Nat) (st : Plane P D) (me : ME) :
    (stepPlane g std now st me).numMessages = st.numMessages + 1 :=
  congrArg (· + 1) (payload_cases (motive := fun f => (f std now st).numMessages = st.numMessages) g me rfl (fun _ => rfl) (fun _ => rfl)
    (updatePosition_numMessages g std now st))

theorem entryOrInsert_eq (s : Airplanes P D) (k now : Nat) :
    entryOrInsert s k now = ((s.get k).getD { lastTime := now }, (s.get k).isNone) := by
  unfold entryOrInsert; cases s.get k <;> rfl

theorem action_eq (g : Geo P D) (std : Bool) (now : Nat) (s : Airplanes P D) (df : DF) :
    action g std now s df = match frameKey df with
      | none => (s, false)
      | some (k, me) => (s.put k (stepPlane g std now ((s.get k).getD { lastTime := now }) me), (s.get k).isNone) := by
  unfold action
  rcases frameKey df with _ | ⟨k, me⟩
  · rfl
  · dsimp only; rw [entryOrInsert_eq]; rfl

theorem action_snd (g : Geo P D) (std : Bool) (now : Nat) (s : Airplanes P D) (df : DF) :
    (action g std now s df).2 = match frameKey df with | none => false | some (k, _) => (s.get k).isNone := by
  rw [action_eq]; cases frameKey df <;> rfl

/-- what a frame does to the record of address `a` -/
theorem get_action (g : Geo P D) (std : Bool) (now : Nat) (s : Airplanes P D) (df : DF) (a : Nat) :
    (action g std now s df).1.get a = match frameKey df with
      | none => s.get a
      | some (k, me) => if k = a then some (stepPlane g std now ((s.get k).getD { lastTime := now }) me) else s.get a := by
  rw [action_eq]
  cases frameKey df with
  | none => rfl
  | some km => exact get_put ..

/-- … to the record of its own address -/
theorem get_action_own (g : Geo P D) (std : Bool) (now : Nat) (s : Airplanes P D) {df : DF} {k : Nat} {me : ME}
    (h : frameKey df = some (k, me)) :
    (action g std now s df).1.get k = some (stepPlane g std now ((s.get k).getD { lastTime := now }) me) := by
  rw [get_action, h]; exact if_pos rfl

/-- **frames of other downlink formats change nothing** -/
theorem other_formats_noop (g : Geo P D) (std : Bool) (now : Nat) (s : Airplanes P D) (df : DF) (h : frameKey df = none) :
    action g std now s df = (s, false) := by
  rw [action_eq, h]

theorem key_is_announced (df : DF) (k : Nat) (me : ME) (h : frameKey df = some (k, me)) :
    (∃ ca pi, df = .adsb ca k me pi) ∨ (∃ cf pi, df = .tisb cf k me pi) := by
  cases df <;> cases h
  · exact Or.inl ⟨_, _, rfl⟩
  · exact Or.inr ⟨_, _, rfl⟩

/-- only DF17 and DF18 are tracked, under their announced address -/
theorem tracked_formats (df : DF) :
    (∃ k me, frameKey df = some (k, me)) ↔ (∃ ca icao me pi, df = .adsb ca icao me pi) ∨ (∃ cf aa me pi, df = .tisb cf aa me pi) := by
  constructor
  · rintro ⟨k, me, h⟩
    exact (key_is_announced df k me h).imp (fun ⟨ca, pi, e⟩ => ⟨ca, k, me, pi, e⟩) (fun ⟨cf, pi, e⟩ => ⟨cf, k, me, pi, e⟩)
  · rintro (⟨_, k, me, _, rfl⟩ | ⟨_, k, me, _, rfl⟩) <;> exact ⟨k, me, rfl⟩

/-- **'added' exactly when the address was not tracked before the frame** -/
theorem added_iff_new (g : Geo P D) (std : Bool) (now : Nat) (s : Airplanes P D) (df : DF) :
    (action g std now s df).2 = true ↔ ∃ k me, frameKey df = some (k, me) ∧ s.get k = none := by
  rw [action_snd]
  cases frameKey df with
  | none => simp
  | some km => obtain ⟨k, me⟩ := km; simp [Option.isNone_iff_eq_none]

/-- **message count**: a tracked frame adds exactly one to its record's count, starting from 0 for a new record -/
theorem count_step (g : Geo P D) (std : Bool) (now : Nat) (s : Airplanes P D) (df : DF) (k : Nat) (me : ME)
    (h : frameKey df = some (k, me)) :
    ∃ p, (action g std now s df).1.get k = some p ∧
      p.numMessages = (match s.get k with | some q => q.numMessages | none => 0) + 1 := by
  refine ⟨_, get_action_own g std now s h, ?_⟩
  rw [stepPlane_numMessages]
  cases s.get k <;> rfl

def concerns (a : Nat) (df : DF) : Bool := match frameKey df with | some (k, _) => k == a | none => false

theorem concerns_iff (a : Nat) (df : DF) : concerns a df = true ↔ ∃ me, frameKey df = some (a, me) := by
  unfold concerns
  cases frameKey df with
  | none => simp
  | some km => obtain ⟨k, me⟩ := km; simp

/-- **isolation, one step**: a frame never changes the record of another address -/
theorem isolation_step (g : Geo P D) (std : Bool) (now : Nat) (s : Airplanes P D) (df : DF) (k2 : Nat)
    (h : ¬ concerns k2 df = true) : (action g std now s df).1.get k2 = s.get k2 := by
  rw [get_action]
  cases hk : frameKey df with
  | none => rfl
  | some km => exact if_neg fun e => h ((concerns_iff k2 df).mpr ⟨km.2, by rw [hk, ← e]⟩)

/-- a frame's effect on its own address depends only on that address's record -/
theorem own_record_step (g : Geo P D) (std : Bool) (now : Nat) (s s' : Airplanes P D) (df : DF) (k : Nat) (me : ME)
    (h : frameKey df = some (k, me)) (hsame : s.get k = s'.get k) :
    (action g std now s df).1.get k = (action g std now s' df).1.get k := by
  rw [get_action_own g std now s h, get_action_own g std now s' h, hsame]

/-- a history: clock reading and frame per step -/
def run (g : Geo P D) (std : Bool) (s : Airplanes P D) : List (Nat × DF) → Airplanes P D
  | [] => s
  | (now, df) :: rest => run g std (action g std now s df).1 rest

/-- **isolation**: the record of an address after any interleaved history is the record after the sub-history of
its own frames: traffic from other aircraft never changes it -/
theorem isolation (g : Geo P D) (std : Bool) (a : Nat) (h : List (Nat × DF)) (s s' : Airplanes P D) (hs : s.get a = s'.get a) :
    (run g std s h).get a = (run g std s' (h.filter (fun e => concerns a e.2))).get a := by
  induction h generalizing s s' with
  | nil => exact hs
  | cons e rest ih =>
    obtain ⟨now, df⟩ := e
    simp only [run, List.filter_cons]
    split
    · next hc =>
      obtain ⟨me, hk⟩ := (concerns_iff a df).mp hc
      exact ih _ _ (own_record_step g std now s s' df a me hk hs)
    · next hc =>
      exact ih _ _ ((isolation_step g std now s df a hc).trans hs)

/-- **one record per address**: keys stay strictly increasing through every action (and expiry: `sorted_prune`) -/
theorem sorted_action (g : Geo P D) (std : Bool) (now : Nat) (s : Airplanes P D) (df : DF) (hs : Sorted s) :
    Sorted (action g std now s df).1 := by
  rw [action_eq]
  cases frameKey df with
  | none => exact hs
  | some km => exact sorted_put _ _ _ hs

theorem sorted_prune (T now : Nat) (s : Airplanes P D) (hs : Sorted s) : Sorted (prune T now s) :=
  sorted_filter s _ hs

/-- **the tracked set grows only by the frame's own address and shrinks only through expiry** -/
theorem keys_action (g : Geo P D) (std : Bool) (now : Nat) (s : Airplanes P D) (df : DF) (k2 : Nat) :
    ((action g std now s df).1.get k2).isSome ↔ ((s.get k2).isSome ∨ ∃ me, frameKey df = some (k2, me)) := by
  by_cases hc : concerns k2 df = true
  · obtain ⟨me, hk⟩ := (concerns_iff k2 df).mp hc
    rw [get_action_own g std now s hk]
    exact ⟨fun _ => Or.inr ⟨me, hk⟩, fun _ => rfl⟩
  · rw [isolation_step g std now s df k2 hc]
    exact ⟨Or.inl, fun h => h.elim id fun hk => absurd ((concerns_iff k2 df).mpr hk) hc⟩

/-! ## non-vacuity (tests) -/
example : (action (P := Nat) (D := Nat) ⟨fun _ _ => none, fun _ => 0, fun _ _ => 0, fun _ => false, fun _ => false, (· == ·), (· == ·)⟩ true 5 []
    (.adsb ⟨5, 0⟩ 0xABCDEF (.noPosition 0) 0)).2 = true := by decide

end Adsb.C12
