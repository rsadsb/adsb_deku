import Adsb.App
import Adsb.Theorems.C12
import Adsb.Theorems.C17
/-! # C18 — what radar shows is the tracker's data; view controls never change the data -/

namespace Adsb.C18
variable {P D : Type}

/-! ## the Airplanes tab -/

theorem details_eq_some {p : Plane P D} {x : P × Nat × D} :
    details p = some x ↔ p.coords.pos = some x.1 ∧ p.coords.altitude = some x.2.1 ∧ p.coords.kd = some x.2.2 := by
  obtain ⟨x1, x2, x3⟩ := x
  unfold details
  cases p.coords.pos <;> cases p.coords.altitude <;> cases p.coords.kd <;> simp

/-- **one row per tracked aircraft, in the tracker's (address) order**; the i-th row is built from the i-th record -/
theorem rows_are_records (s : Airplanes P D) :
    (tableRows s).length = s.length ∧ ∀ i (h : i < s.length), (tableRows s)[i]? = some (rowOf s[i]) :=
  ⟨List.length_map .., fun i h => by rw [tableRows, List.getElem?_map, List.getElem?_eq_getElem h]; rfl⟩

/-- **each cell is the record's datum**: address, callsign, message count verbatim; latitude / longitude, altitude and distance are
the record's `aircraft_details` - all present or all blank -/
theorem row_cells (kv : Nat × Plane P D) :
    (rowOf kv).icao = kv.1 ∧ (rowOf kv).callsign = kv.2.callsign ∧ (rowOf kv).msgs = kv.2.numMessages ∧ (rowOf kv).vel = kv.2.vel ∧
    (rowOf kv).pos = (details kv.2).map (·.1) ∧ (rowOf kv).alt = (details kv.2).map (·.2.1) ∧ (rowOf kv).dist = (details kv.2).map (·.2.2) :=
  ⟨rfl, rfl, rfl, rfl, rfl, rfl, rfl⟩

/-- the position cells are blank exactly until a position (with its altitude and distance) is known -/
theorem blank_until_position (kv : Nat × Plane P D) :
    ((rowOf kv).pos.isSome = (details kv.2).isSome) ∧ ((rowOf kv).alt.isSome = (details kv.2).isSome) ∧ ((rowOf kv).dist.isSome = (details kv.2).isSome) :=
  ⟨Option.isSome_map .., Option.isSome_map .., Option.isSome_map ..⟩

/-- a shown position is the record's position, its distance the record's distance -/
theorem shown_position (kv : Nat × Plane P D) (p : P) (h : (rowOf kv).pos = some p) : kv.2.coords.pos = some p := by
  obtain ⟨x, hx, rfl⟩ := Option.map_eq_some_iff.mp h
  exact (details_eq_some.mp hx).1

/-- **the tab title counts the tracked aircraft** (the number of table rows, each a distinct address) -/
theorem title_counts_rows (s : Airplanes P D) : titleCount s = (tableRows s).length := (List.length_map ..).symm

/-! ## data and view are separate: the data of a run is a function of the frames and the clock only -/

/-- the data part of one iteration -/
def dataStep (g : Geo P D) (T : Nat) (d : Airplanes P D × Stats) (fn : Option DF × Nat) : Airplanes P D × Stats :=
  match fn.1 with
  | some df =>
    let r := action g true fn.2 d.1 df
    (prune T fn.2 r.1, d.2.update r.1.length r.2)
  | none => (prune T fn.2 d.1, d.2)

def dataRun (g : Geo P D) (T : Nat) (d : Airplanes P D × Stats) (fs : List (Option DF × Nat)) : Airplanes P D × Stats :=
  fs.foldl (dataStep g T) d

theorem appStep_all (g : Geo P D) (T : Nat) (a : App P D) (s : Step) (hn : ∀ e ∈ s.events, C17.noQuitKey e) :
    (appStep g T a s).All fun a' =>
      (a'.planes, a'.stats) = dataStep g T (a.planes, a.stats) (s.frame, s.now) ∧ a'.ui.quit = a.ui.quit := by
  unfold appStep
  dsimp only
  split
  · next ui hb =>
    refine ⟨?_, ((Res.All_ok (C17.batch_spec s.events _).1 hb).2 hn).trans ((C17.clamp_moves ..).2 trivial)⟩
    unfold dataStep feed
    cases s.frame <;> rfl
  · trivial
  · trivial

theorem appRun_cons (g : Geo P D) (T : Nat) (a : App P D) (s : Step) (ss : List Step) :
    appRun g T a (s :: ss) = appStep g T a s >>= fun a' => if a'.ui.quit then .ok a' else appRun g T a' ss := by
  rw [appRun]; cases appStep g T a s <;> rfl

/-- the loop is the data run beside the handlers: a run without a quit key ends, if at all, on the data of the bare traffic, still running -/
theorem appRun_all (g : Geo P D) (T : Nat) (ss : List Step) : ∀ (a : App P D), a.ui.quit = false →
    (∀ s ∈ ss, ∀ e ∈ s.events, C17.noQuitKey e) →
    (appRun g T a ss).All fun a' =>
      (a'.planes, a'.stats) = dataRun g T (a.planes, a.stats) (ss.map (fun s => (s.frame, s.now))) ∧ a'.ui.quit = false := by
  induction ss with
  | nil => exact fun a hq _ => ⟨rfl, hq⟩
  | cons s rest ih =>
    intro a hq hn
    rw [List.forall_mem_cons] at hn
    rw [appRun_cons]
    refine (appStep_all g T a s hn.1).bind fun a1 h1 => ?_
    have q1 := h1.2.trans hq
    rw [q1, List.map_cons, dataRun, List.foldl_cons, ← h1.1]
    exact ih a1 q1 hn.2

/-- **the data shown depends only on the traffic**: whatever the operator does (short of quitting) - zoom, pan, reset, tab switches,
selections, drags - the tracker and the statistics after a run are those of the bare sequence of frames and clock readings -/
theorem data_independent_of_view (g : Geo P D) (T : Nat) (ss : List Step) : ∀ (a a' : App P D), a.ui.quit = false →
    (∀ s ∈ ss, ∀ e ∈ s.events, C17.noQuitKey e) → appRun g T a ss = .ok a' →
    (a'.planes, a'.stats) = dataRun g T (a.planes, a.stats) (ss.map (fun s => (s.frame, s.now))) :=
  fun a _ hq hn h => (Res.All_ok (appRun_all g T ss a hq hn) h).1

/-- **zoom, pan and reset change only the view, never the data**: two runs over the same traffic with different operator
actions end with the same tracker contents and the same statistics -/
theorem view_controls_never_change_data (g : Geo P D) (T : Nat) (ss ss' : List Step) (a b a' b' : App P D)
    (hp : a.planes = b.planes) (hst : a.stats = b.stats) (ha : a.ui.quit = false) (hb : b.ui.quit = false)
    (hn : ∀ s ∈ ss, ∀ e ∈ s.events, C17.noQuitKey e) (hn' : ∀ s ∈ ss', ∀ e ∈ s.events, C17.noQuitKey e)
    (same : ss.map (fun s => (s.frame, s.now)) = ss'.map (fun s => (s.frame, s.now)))
    (h : appRun g T a ss = .ok a') (h' : appRun g T b ss' = .ok b') : a'.planes = b'.planes ∧ a'.stats = b'.stats := by
  have e1 := data_independent_of_view g T ss a a' ha hn h
  have e2 := data_independent_of_view g T ss' b b' hb hn' h'
  rw [same, hp, hst] at e1
  rw [← e2] at e1
  exact ⟨congrArg Prod.fst e1, congrArg Prod.snd e1⟩

/-! ## the statistics tab -/

/-- whether the frame is filed under an address that is not tracked yet -/
def isNew (s : Airplanes P D) (f : Option DF) : Bool :=
  match f with
  | some df => (match frameKey df with
    | some (k, _) => (s.get k).isNone
    | none => false)
  | none => false

/-- how many times an aircraft was newly added during the run -/
def newly (g : Geo P D) (T : Nat) (s : Airplanes P D) : List (Option DF × Nat) → Nat
  | [] => 0
  | fn :: rest => (if isNew s fn.1 then 1 else 0) + newly g T (dataStep g T (s, ({} : Stats)) fn).1 rest

/-- the largest number of aircraft tracked at once during the run (counted when a frame has been filed, before expiry) -/
def peak (g : Geo P D) (T : Nat) (s : Airplanes P D) : List (Option DF × Nat) → Nat
  | [] => 0
  | fn :: rest =>
    max (match fn.1 with | some df => (action g true fn.2 s df).1.length | none => 0) (peak g T (dataStep g T (s, ({} : Stats)) fn).1 rest)

/-- what a frame contributes to "Most Airplanes": the count when it has been filed -/
def filed (g : Geo P D) (s : Airplanes P D) (fn : Option DF × Nat) : Nat :=
  match fn.1 with | some df => (action g true fn.2 s df).1.length | none => 0

theorem peak_cons (g : Geo P D) (T : Nat) (s : Airplanes P D) (fn : Option DF × Nat) (rest : List (Option DF × Nat)) :
    peak g T s (fn :: rest) = max (filed g s fn) (peak g T (dataStep g T (s, ({} : Stats)) fn).1 rest) := rfl

theorem added_eq_isNew (g : Geo P D) (now : Nat) (s : Airplanes P D) (df : DF) : (action g true now s df).2 = isNew s (some df) := by
  rw [C12.action_snd, isNew]; cases frameKey df <;> rfl

theorem dataStep_eq (g : Geo P D) (T : Nat) (s : Airplanes P D) (st : Stats) (fn : Option DF × Nat) :
    dataStep g T (s, st) fn = ((dataStep g T (s, ({} : Stats)) fn).1,
      { most := max st.most (filed g s fn), total := st.total + (if isNew s fn.1 then 1 else 0) }) := by
  unfold dataStep filed
  cases fn.1 with
  | none => simp [isNew]
  | some df =>
    simp only [Stats.update, added_eq_isNew, Prod.mk.injEq, Stats.mk.injEq, true_and]
    constructor
    · split <;> omega
    · cases isNew s (some df) <;> rfl

theorem dataStep_length_le (g : Geo P D) (T : Nat) (s : Airplanes P D) (st : Stats) (fn : Option DF × Nat) :
    (dataStep g T (s, st) fn).1.length ≤ max s.length (filed g s fn) := by
  unfold dataStep filed
  cases fn.1 with
  | none => exact Nat.le_trans (List.length_filter_le ..) (Nat.le_max_left ..)
  | some df => exact Nat.le_trans (List.length_filter_le ..) (Nat.le_max_right ..)

theorem dataRun_stats (g : Geo P D) (T : Nat) (fs : List (Option DF × Nat)) : ∀ (s : Airplanes P D) (st : Stats),
    (dataRun g T (s, st) fs).2 = { most := max st.most (peak g T s fs), total := st.total + newly g T s fs } := by
  induction fs with
  | nil => intro s st; simp [dataRun, peak, newly]
  | cons fn rest ih =>
    intro s st
    rw [dataRun, List.foldl_cons, dataStep_eq, ← dataRun, ih, peak_cons, newly, Nat.max_assoc, Nat.add_assoc]

/-- one iteration keeps the count below "Most Airplanes": a filed frame's count enters the maximum, expiry only removes -/
theorem dataStep_count_le (g : Geo P D) (T : Nat) (s : Airplanes P D) (st : Stats) (fn : Option DF × Nat) (h : s.length ≤ st.most) :
    (dataStep g T (s, st) fn).1.length ≤ (dataStep g T (s, st) fn).2.most := by
  have := dataStep_length_le g T s {} fn
  rw [dataStep_eq]; dsimp only; omega

/-- **"Total Airplanes" = the number of times an aircraft was newly added** -/
theorem total_counts_newly_added (g : Geo P D) (T : Nat) (fs : List (Option DF × Nat)) : ∀ (s : Airplanes P D) (st : Stats),
    (dataRun g T (s, st) fs).2.total = st.total + newly g T s fs :=
  fun s st => congrArg Stats.total (dataRun_stats g T fs s st)

/-- **"Most Airplanes" = the largest simultaneous count** -/
theorem most_is_peak (g : Geo P D) (T : Nat) (fs : List (Option DF × Nat)) : ∀ (s : Airplanes P D) (st : Stats),
    (dataRun g T (s, st) fs).2.most = max st.most (peak g T s fs) :=
  fun s st => congrArg Stats.most (dataRun_stats g T fs s st)

/-- and the count on screen never exceeds it: `len ≤ most` is kept by every run (it holds of the empty start) -/
theorem count_le_most (g : Geo P D) (T : Nat) (fs : List (Option DF × Nat)) : ∀ (s : Airplanes P D) (st : Stats), s.length ≤ st.most →
    (dataRun g T (s, st) fs).1.length ≤ (dataRun g T (s, st) fs).2.most := by
  induction fs with
  | nil => exact fun _ _ h => h
  | cons fn rest ih => exact fun s st h => ih _ _ (dataStep_count_le g T s st fn h)

end Adsb.C18
