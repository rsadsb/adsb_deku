import Adsb.TrackerF
import Adsb.Gen.Formulas
import Adsb.Theorems.C13
import Mathlib.Analysis.SpecialFunctions.Complex.Arg
/-! # C13 (part 2) — the reported distance is the great-circle distance (Mathlib, ℝ)

`haversineG` is the model of `haversine_distance` (generic in the arithmetic and in the `libm` functions; the driver
evaluates it over `Float`, tied to the implementation by the `T`/`H` operations of the correspondence). Here it is
instantiated with the real numbers, `Real.sin`, `Real.cos`, `Real.sqrt` and `atan2 y x = arg (x + y·i)`, and proved equal
to the specification written independently of the formula: *Earth radius × the angle between the two unit vectors*.
What is not covered: the `f64` rounding of the same expression (numeric tie, DESIGN §8). -/

namespace Adsb.C13b
open Real

noncomputable def realHav : HavOps ℝ :=
  { add := (· + ·), sub := (· - ·), mul := (· * ·), div := (· / ·), lit := fun n => (n : ℝ), pi := π,
    sin := Real.sin, cos := Real.cos, sqrt := Real.sqrt,
    atan2 := fun y x => Complex.arg ⟨x, y⟩, max0 := fun d => max d 0 }

/-- `haversine_distance` over the reals; points are `(latitude, longitude)` in degrees -/
noncomputable def hav (p q : ℝ × ℝ) : ℝ := haversineG realHav p q

noncomputable def rad (x : ℝ) : ℝ := x * (π / 180)

/-! ## the specification: radius × central angle -/

/-- the point of the unit sphere at `(lat, lon)` degrees -/
noncomputable def unitVec (p : ℝ × ℝ) : ℝ × ℝ × ℝ :=
  (cos (rad p.1) * cos (rad p.2), cos (rad p.1) * sin (rad p.2), sin (rad p.1))

def dot (u v : ℝ × ℝ × ℝ) : ℝ := u.1 * v.1 + u.2.1 * v.2.1 + u.2.2 * v.2.2

/-- great-circle distance in km on a sphere of radius 6371 km -/
noncomputable def greatCircle (p q : ℝ × ℝ) : ℝ := 6371 * arccos (dot (unitVec p) (unitVec q))

theorem sin_sq_half (x : ℝ) : sin (x / 2) * sin (x / 2) = (1 - cos x) / 2 := by
  rw [← sq, Real.sin_sq_eq_half_sub, show 2 * (x / 2) = x by ring]; ring

/-- the haversine term `a` -/
noncomputable def havA (p q : ℝ × ℝ) : ℝ :=
  sin ((rad q.1 - rad p.1) / 2) * sin ((rad q.1 - rad p.1) / 2)
    + cos (rad p.1) * cos (rad q.1) * sin ((rad q.2 - rad p.2) / 2) * sin ((rad q.2 - rad p.2) / 2)

theorem hav_unfold (p q : ℝ × ℝ) :
    hav p q = 6371 * (2 * Complex.arg ⟨sqrt (max (1 - havA p q) 0), sqrt (havA p q)⟩) := by
  unfold hav haversineG realHav havA rad
  simp only [Gen.earthRadius, Nat.cast_ofNat, Nat.cast_one]

/-- the cosine of the central angle (spherical law of cosines, with the pole as third point) -/
theorem dot_unitVec (p q : ℝ × ℝ) : dot (unitVec p) (unitVec q) =
    sin (rad p.1) * sin (rad q.1) + cos (rad p.1) * cos (rad q.1) * cos (rad q.2 - rad p.2) := by
  unfold dot unitVec
  rw [Real.cos_sub]; ring

/-- `1 − 2a` is the cosine of the central angle -/
theorem one_sub_two_a (p q : ℝ × ℝ) : 1 - 2 * havA p q = dot (unitVec p) (unitVec q) := by
  rw [dot_unitVec, havA, mul_assoc (cos _ * cos _), sin_sq_half, sin_sq_half, Real.cos_sub]
  ring

theorem unitVec_norm (p : ℝ × ℝ) : dot (unitVec p) (unitVec p) = 1 := by
  rw [dot_unitVec, sub_self, Real.cos_zero]
  linear_combination Real.sin_sq_add_cos_sq (rad p.1)

/-- Cauchy–Schwarz for two unit vectors -/
theorem dot_unit_bounds {u v : ℝ × ℝ × ℝ} (hu : dot u u = 1) (hv : dot v v = 1) : -1 ≤ dot u v ∧ dot u v ≤ 1 := by
  unfold dot at *
  constructor
  · linarith only [hu, hv, mul_self_nonneg (u.1 + v.1), mul_self_nonneg (u.2.1 + v.2.1), mul_self_nonneg (u.2.2 + v.2.2)]
  · linarith only [hu, hv, mul_self_nonneg (u.1 - v.1), mul_self_nonneg (u.2.1 - v.2.1), mul_self_nonneg (u.2.2 - v.2.2)]

/-- `0 ≤ a ≤ 1` for all points, whatever the latitudes: `1 − 2a` is the inner product of two unit vectors -/
theorem havA_range (p q : ℝ × ℝ) : 0 ≤ havA p q ∧ havA p q ≤ 1 := by
  obtain ⟨h1, h2⟩ := dot_unit_bounds (unitVec_norm p) (unitVec_norm q)
  rw [← one_sub_two_a] at h1 h2
  constructor <;> linarith only [h1, h2]

/-- the angle computed by `2·atan2(√a, √(1−a))` is the one in `[0, π]` whose cosine is `1 − 2a`: the point `(√(1−a), √a)` lies on
the unit circle in the first quadrant, so its argument `θ ∈ [0, π/2]` has `sin θ = √a`, and `cos 2θ = 1 − 2 sin² θ` -/
theorem angle_eq {a : ℝ} (h0 : 0 ≤ a) (h1 : a ≤ 1) :
    2 * Complex.arg ⟨sqrt (max (1 - a) 0), sqrt a⟩ = arccos (1 - 2 * a) := by
  rw [max_eq_left (sub_nonneg.mpr h1)]
  set z : ℂ := ⟨sqrt (1 - a), sqrt a⟩
  have hn : ‖z‖ = 1 := by
    rw [Complex.norm_def, Complex.normSq_mk, mul_self_sqrt (sub_nonneg.mpr h1), mul_self_sqrt h0, sub_add_cancel, sqrt_one]
  have hs : sin z.arg = sqrt a := by rw [Complex.sin_arg, hn, div_one]
  have r0 : 0 ≤ z.arg := Complex.arg_nonneg_iff.mpr (sqrt_nonneg a)
  have r1 : z.arg ≤ π / 2 := Complex.arg_le_pi_div_two_iff.mpr (Or.inl (sqrt_nonneg _))
  rw [← arccos_cos (mul_nonneg zero_le_two r0) ((le_div_iff₀' two_pos).mp r1), cos_two_mul_eq_one_sub, hs, sq_sqrt h0]

/-- the haversine formula is the great-circle distance for all pairs of points, whatever the latitudes -/
theorem hav_eq_greatCircle (p q : ℝ × ℝ) : hav p q = greatCircle p q := by
  rw [hav_unfold, angle_eq (havA_range p q).1 (havA_range p q).2, one_sub_two_a, greatCircle]

/-- **the haversine formula of the tracker is the great-circle distance on a sphere of radius 6371 km**, for all pairs
of points with latitudes in [−90°, 90°] and arbitrary longitudes (no wrap assumption) -/
theorem haversine_is_great_circle (p q : ℝ × ℝ) (hp : |p.1| ≤ 90) (hq : |q.1| ≤ 90) : hav p q = greatCircle p q := by
  -- the latitude bounds are not used: `hav_eq_greatCircle` holds for all points
  exact hav_eq_greatCircle p q

theorem hav_symm (p q : ℝ × ℝ) (hp : |p.1| ≤ 90) (hq : |q.1| ≤ 90) : hav p q = hav q p := by
  rw [haversine_is_great_circle p q hp hq, haversine_is_great_circle q p hq hp]
  unfold greatCircle dot; congr 2; ring

/-- the distance is never negative and never exceeds half the circumference -/
theorem hav_range (p q : ℝ × ℝ) (hp : |p.1| ≤ 90) (hq : |q.1| ≤ 90) : 0 ≤ hav p q ∧ hav p q ≤ 6371 * π := by
  rw [haversine_is_great_circle p q hp hq, greatCircle]
  exact ⟨mul_nonneg (by norm_num) (arccos_nonneg _), mul_le_mul_of_nonneg_left (arccos_le_pi _) (by norm_num)⟩

theorem hav_self (p : ℝ × ℝ) (hp : |p.1| ≤ 90) : hav p p = 0 := by
  rw [haversine_is_great_circle p p hp hp, greatCircle, unitVec_norm, arccos_one, mul_zero]

/-- antipodal points are half the circumference apart (the case the `fmax` repair is about) -/
theorem hav_antipodal (lat lon : ℝ) (h : |lat| ≤ 90) : hav (lat, lon) (-lat, lon + 180) = 6371 * π := by
  have d : dot (unitVec (lat, lon)) (unitVec (-lat, lon + 180)) = -1 := by
    rw [dot_unitVec, show rad (lon + 180) - rad lon = π by unfold rad; ring, show rad (-lat) = -rad lat from neg_mul _ _,
      sin_neg, cos_neg, cos_pi]
    linear_combination -sin_sq_add_cos_sq (rad lat)
  rw [haversine_is_great_circle _ _ h (by simpa using h), greatCircle, d, arccos_neg_one]

/-- one degree of latitude along a meridian is `6371·π/180` km (≈ 111.19 km): a concrete, non-trivial instance -/
example : hav (10, 20) (11, 20) = 6371 * (π / 180) := by
  rw [haversine_is_great_circle _ _ (by norm_num) (by norm_num), greatCircle, dot_unitVec]
  have e : rad 11 - rad 10 = π / 180 := by unfold rad; ring
  rw [sub_self, cos_zero, mul_one, add_comm, mul_comm (sin _), mul_comm (cos _), ← cos_sub, e,
    arccos_cos (by positivity) (by linarith [pi_pos])]

/-! ## the formula as translated from the source on this run -/

/-- `haversine_distance` as written in `rsadsb_common/src/lib.rs` today (translated by `tools/rust2lean.py`, generic in the number type)
is, term for term, the definition the theorems above are about -/
theorem src_haversine_eq {α : Type} (H : HavOps α) (s o : α × α) : Gen.haversineSrc H s o = haversineG H s o := rfl

/-- **the distance function of the source text is the great-circle distance** (over the reals) -/
theorem src_haversine_is_great_circle (p q : ℝ × ℝ) (hp : |p.1| ≤ 90) (hq : |q.1| ≤ 90) :
    Gen.haversineSrc realHav p q = greatCircle p q := by
  rw [src_haversine_eq]; exact haversine_is_great_circle p q hp hq

/-! ## the plausibility test of the tracker, in great-circle terms -/

open Classical in
/-- the tracker's geometry over the reals: receiver `rx`, maximum range `range` in km; positions are `(latitude, longitude)` in degrees.
The CPR pairing stays a parameter. -/
noncomputable def realGeo (getPos : Alt → Alt → Option (ℝ × ℝ)) (rx : ℝ × ℝ) (range : ℝ) : Geo (ℝ × ℝ) ℝ :=
  { getPos := getPos, rxDist := fun p => hav rx p, dist := fun a b => hav a b,
    outOfRange := fun d => decide (d > range), jump := fun d => decide (d > (Gen.maxAircraftDistance : ℝ)),
    peq := fun a b => decide (a = b), deq := fun a b => decide (a = b) }

/-- **a candidate position passes the tracker's test exactly when it lies within the configured range of the receiver and within 100 km
of the previously published position, both measured along the great circle on a sphere of radius 6371 km** -/
theorem plausible_iff_great_circle (getPos : Alt → Alt → Option (ℝ × ℝ)) (rx : ℝ × ℝ) (range : ℝ) (cur : Option (ℝ × ℝ)) (p : ℝ × ℝ)
    (hrx : |rx.1| ≤ 90) (hp : |p.1| ≤ 90) (hc : ∀ c, cur = some c → |c.1| ≤ 90) :
    C13.plausible (realGeo getPos rx range) cur p = true ↔
      greatCircle rx p ≤ range ∧ ∀ c, cur = some c → greatCircle c p ≤ 100 := by
  unfold C13.plausible realGeo
  simp only [Bool.and_eq_true, Bool.not_eq_true', decide_eq_false_iff_not, not_lt]
  rw [haversine_is_great_circle rx p hrx hp]
  have h100 : ((Gen.maxAircraftDistance : ℕ) : ℝ) = 100 := by norm_num [Gen.maxAircraftDistance]
  cases cur with
  | none => simp
  | some c =>
    have := hc c rfl
    simp only [Bool.not_eq_true', decide_eq_false_iff_not, not_lt, Option.some.injEq, forall_eq']
    rw [haversine_is_great_circle c p this hp, h100]

end Adsb.C13b
