import Adsb.Theorems.C12
/-! # C15 — expiry removes exactly the aircraft not heard from for the configured time -/

namespace Adsb.C15
open Adsb.C12
variable {P D : Type}

/-- the record survives expiry with threshold `T` seconds at clock reading `now` (milliseconds) -/
def alive (T now : Nat) (p : Plane P D) : Bool := decide (now - p.lastTime < 1000 * T) && decide (p.lastTime ≤ now)

/-- **expiry is exact**: an address is tracked afterwards iff it was tracked and heard less than `T` seconds ago,
and every surviving record is untouched -/
theorem prune_exact (T now : Nat) (s : Airplanes P D) (hs : Sorted s) (k : Nat) :
    (prune T now s).get k = match s.get k with
      | some p => if alive T now p then some p else none
      | none => none := by
  unfold prune
  rw [get_filter s _ k hs]
  rfl

/-- with a monotone clock (`lastTime ≤ now`) the test is simply "elapsed time < T" -/
theorem alive_iff (T now : Nat) (p : Plane P D) (h : p.lastTime ≤ now) : alive T now p = true ↔ now - p.lastTime < 1000 * T := by
  unfold alive; simp [h]

/-- a clock error (record stamped in the future, `elapsed()` fails) removes the record -/
theorem clock_error_removes (T now : Nat) (p : Plane P D) (h : now < p.lastTime) : alive T now p = false := by
  unfold alive; simp [Nat.not_le.mpr h]

theorem prune_zero (now : Nat) (s : Airplanes P D) : prune 0 now s = [] :=
  List.filter_eq_nil_iff.mpr fun kv _ => by simp

/-- expiry only removes (that nothing else removes a record is `C12.keys_action`) -/
theorem prune_subset (T now : Nat) (s : Airplanes P D) : ∀ kv ∈ prune T now s, kv ∈ s := by
  intro kv h; exact (List.mem_filter.mp h).1

/-- **every tracked frame refreshes the time the aircraft was last heard** (std build) -/
theorem last_time_refreshed (g : Geo P D) (now : Nat) (st : Plane P D) (me : ME) : (stepPlane g true now st me).lastTime = now := by
  unfold stepPlane; rfl

/-- **an expired aircraft that is heard again is reported as newly added and starts from an empty record** -/
theorem reappear_added_fresh (g : Geo P D) (std : Bool) (T t1 now : Nat) (s : Airplanes P D) (hs : Sorted s) (df : DF) (k : Nat) (me : ME)
    (hk : frameKey df = some (k, me)) (p : Plane P D) (hp : s.get k = some p) (hdead : alive T t1 p = false) :
    (action g std now (prune T t1 s) df).2 = true ∧
    (action g std now (prune T t1 s) df).1.get k = some (stepPlane g std now { lastTime := now } me) := by
  have hgone : (prune T t1 s).get k = none := by rw [prune_exact T t1 s hs k, hp]; simp [hdead]
  rw [action_eq, hk]; dsimp only; rw [hgone]
  exact ⟨rfl, get_put_same _ _ _⟩

/-- expiry leaves a surviving record as it is -/
theorem prune_keeps (T now : Nat) (s : Airplanes P D) (hs : Sorted s) (k : Nat) (p : Plane P D)
    (hp : s.get k = some p) (ha : alive T now p = true) : (prune T now s).get k = some p := by
  rw [prune_exact T now s hs k, hp]; exact if_pos ha

/-! ## non-vacuity (tests) -/
example : alive (P := Nat) (D := Nat) 120 119999 { lastTime := 0 } = true := by decide
example : alive (P := Nat) (D := Nat) 120 120000 { lastTime := 0 } = false := by decide

end Adsb.C15
