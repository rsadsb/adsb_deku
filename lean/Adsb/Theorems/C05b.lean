import Adsb.Lemmas.CprDecode
/-! # C05 (part 2) — CPR global decoding is correct everywhere on Earth (exact arithmetic, Mathlib)

The model `getPosition (α := ℚ)` is the same definition the driver evaluates over `Float` (tied to the `f64` code by the
correspondence check).  The DO-260B *encoder* (`encode`: `yz`, `xz`, with the rounded position `rlat`, `rlon`) is the
independent specification.  Everything is proved for all rational positions on the sphere; no bound, no sampling.
Helper lemmas are in `Lemmas/CprCore` (the zone-index lemma `cpr_j`) and `Lemmas/CprDecode`. -/

namespace Adsb.C05b
open Adsb.CprDecode Adsb.C05

/-- **the NL function of the code is the published table**: `cpr_nl` (the regenerated if-tree, evaluated exactly)
equals the lookup of |lat| in the 58 transition latitudes computed from the closed form, NL = 1 above the last -/
theorem cprNl_eq_table (x : ℚ) : cprNl x = chainNl Spec.nlTable 1 |x| := by
  have e : (if NumOps.ltb x (nOf 0) = true then negOf x else x) = |x| := by
    simp only [cpr_rat, Nat.cast_zero, decide_eq_true_eq]
    split
    · next h => exact (abs_of_neg h).symm
    · next h => exact (abs_of_nonneg (not_lt.mp h)).symm
  have h := nlStmts_flat Gen.nlTree none |x|
  rw [if_pos (show sat none |x| from fun b hb => by cases hb)] at h
  unfold cprNl
  simp only [e]
  rw [← h, evalFlat_chain, nl_tree_is_table]

theorem cprNl_range (x : ℚ) : 1 ≤ cprNl x ∧ cprNl x ≤ 59 := by
  rw [cprNl_eq_table]; exact chainNl_range _ _ table_entries_range

theorem rlat_close (i : ℕ) (hi : i ≤ 1) (φ : ℚ) : |rlat i φ - φ| ≤ dlat i / 262144 := by
  rw [rlat_eq i hi, dlat_eq i hi]; exact rlon_close i 60 φ

/-- **re-encoding (latitude)**: the decoded latitude re-encodes to the transmitted value and is a fixed point of rounding -/
theorem reencode_lat (i : ℕ) (hi : i ≤ 1) (φ : ℚ) : yz i (rlat i φ) = yz i φ ∧ rlat i (rlat i φ) = rlat i φ := by
  have g : gridLon i 60 (rlon i 60 φ) = gridLon i 60 φ := by simpa using gridLon_rlon i 60 φ 0
  simp only [yz_eq i hi, rlat_eq i hi]
  exact ⟨by unfold xz; rw [g], by rw [rlon, g]; rfl⟩

/-- **re-encoding (longitude)**: any longitude congruent modulo 360° to the rounded one re-encodes to the transmitted value -/
theorem reencode_lon (i nl : ℕ) (l : ℚ) (k : ℤ) : xz i nl (rlon i nl l + 360 * k) = xz i nl l := by
  unfold xz; rw [gridLon_rlon, Int.add_mul_emod_self_left]

/-- **range**: every returned position has latitude in [-90, 90] and longitude in [-180, 180) -/
theorem position_range (a b : Alt) (ha : a.lon < 131072) (hb : b.lon < 131072) (q : Position ℚ)
    (h : getPosition (α := ℚ) a b = some q) : (-90 ≤ q.lat ∧ q.lat ≤ 90) ∧ -180 ≤ q.lon ∧ q.lon < 180 := by
  rw [getPosition_rat] at h
  split at h
  · cases h
  · exact decPair_range _ _ _ _ _ (by split <;> split <;> assumption) q h

/-- **inconsistent pairs yield no position**: when the two reports' latitudes fall into different longitude-zone counts,
pairing them (in either order) yields nothing -/
theorem zone_mismatch_none (φe le φo lo : ℚ) (he : -90 ≤ φe ∧ φe ≤ 90) (ho : -90 ≤ φo ∧ φo ≤ 90) (hd : |φe - φo| ≤ 1 / 20)
    (a0 b0 : Alt) (hnl : cprNl (rlat 0 φe) ≠ cprNl (rlat 1 φo)) :
    getPosition (α := ℚ) (encode 0 φe le a0) (encode 1 φo lo b0) = none ∧
    getPosition (α := ℚ) (encode 1 φo lo b0) (encode 0 φe le a0) = none := by
  have h : ∀ odd : Bool, decPair (yz 0 φe) (encode 0 φe le a0).lon (yz 1 φo) (encode 1 φo lo b0).lon odd = none := fun odd => by
    unfold decPair
    simp only [decLat_correct φe φo he ho hd, hnl, ne_eq, not_false_eq_true, if_true, ite_self, Bool.false_eq_true, if_false]
  exact ⟨(getPosition_order _ _ rfl rfl true).trans (h true), (getPosition_order _ _ rfl rfl false).trans (h false)⟩

/-- decoding is correct, with the order as a variable: `odd` = the odd report is the latest -/
theorem cpr_decode_latest (φe le φo lo : ℚ) (he : -90 ≤ φe ∧ φe ≤ 90) (ho : -90 ≤ φo ∧ φo ≤ 90) (hd : |φe - φo| ≤ 1 / 20)
    (a0 b0 : Alt) (nl : ℕ) (hnle : cprNl (rlat 0 φe) = nl) (hnlo : cprNl (rlat 1 φo) = nl) (hlon : lonClose nl le lo) (odd : Bool) :
    ∃ q, getPosition (α := ℚ) (if odd then encode 0 φe le a0 else encode 1 φo lo b0)
        (if odd then encode 1 φo lo b0 else encode 0 φe le a0) = some q ∧ q.lat = (if odd then rlat 1 φo else rlat 0 φe) ∧
      (∃ k : ℤ, q.lon = rlon (if odd then 1 else 0) nl (if odd then lo else le) + 360 * k) ∧ -180 ≤ q.lon ∧ q.lon < 180 := by
  have be : inR (rlat 0 φe) := rlat_bounds 0 (by norm_num) φe he
  have bo : inR (rlat 1 φo) := rlat_bounds 1 (by norm_num) φo ho
  have hlat : cprNl (if odd then rlat 1 φo else rlat 0 φe) = nl := by cases odd <;> assumption
  have hL := decCoord_correct 180 (by norm_num) (by norm_num) nl le lo hlon odd
  norm_num only at hL
  refine ⟨⟨if odd then rlat 1 φo else rlat 0 φe, decCoord 180 nl ((xz 0 nl le : ℕ) / Nq) ((xz 1 nl lo : ℕ) / Nq) odd⟩, ?_, rfl, hL⟩
  rw [getPosition_order _ _ rfl rfl]
  unfold decPair
  simp only [encode, decLat_correct φe φo he ho hd, be, bo, hnle, hnlo, hlat, and_self, not_true_eq_false, ne_eq, if_false,
    Bool.false_eq_true, if_true]

/-- **CPR global decoding is correct**: an even report of `(φe, le)` and an odd report of `(φo, lo)`, latitudes within
0.05° (3 NM) of each other and longitudes within the stated fraction of a zone, both latitudes in the same NL band:
pairing them yields, in either order, exactly the *latest* report's position rounded to its own CPR grid
(`rlat`, `rlon` — within half a bin of the true position, see `rlat_close`, `rlon_close`), longitude normalised to [-180, 180). -/
theorem cpr_global_decode (φe le φo lo : ℚ) (he : -90 ≤ φe ∧ φe ≤ 90) (ho : -90 ≤ φo ∧ φo ≤ 90) (hd : |φe - φo| ≤ 1 / 20)
    (a0 b0 : Alt) (nl : ℕ) (hnle : cprNl (rlat 0 φe) = nl) (hnlo : cprNl (rlat 1 φo) = nl) (hlon : lonClose nl le lo) :
    (∃ q, getPosition (α := ℚ) (encode 0 φe le a0) (encode 1 φo lo b0) = some q ∧ q.lat = rlat 1 φo ∧
        (∃ k : ℤ, q.lon = rlon 1 nl lo + 360 * k) ∧ -180 ≤ q.lon ∧ q.lon < 180) ∧
    (∃ q, getPosition (α := ℚ) (encode 1 φo lo b0) (encode 0 φe le a0) = some q ∧ q.lat = rlat 0 φe ∧
        (∃ k : ℤ, q.lon = rlon 0 nl le + 360 * k) ∧ -180 ≤ q.lon ∧ q.lon < 180) :=
  ⟨cpr_decode_latest φe le φo lo he ho hd a0 b0 nl hnle hnlo hlon true, cpr_decode_latest φe le φo lo he ho hd a0 b0 nl hnle hnlo hlon false⟩

/-- **accuracy, in the property's words**: under the hypotheses of `cpr_global_decode` the returned latitude is within half
a latitude bin (6°/2^18 resp. (360/59)°/2^18, about 2.6 m) of the latest report's true latitude, and the returned longitude is, modulo 360°,
within half a longitude bin of its true longitude. -/
theorem cpr_position_error (φe le φo lo : ℚ) (he : -90 ≤ φe ∧ φe ≤ 90) (ho : -90 ≤ φo ∧ φo ≤ 90) (hd : |φe - φo| ≤ 1 / 20)
    (a0 b0 : Alt) (nl : ℕ) (hnle : cprNl (rlat 0 φe) = nl) (hnlo : cprNl (rlat 1 φo) = nl) (hlon : lonClose nl le lo) :
    (∃ q, getPosition (α := ℚ) (encode 0 φe le a0) (encode 1 φo lo b0) = some q ∧ |q.lat - φo| ≤ 360 / 59 / 262144 ∧
        ∃ k : ℤ, |q.lon - 360 * k - lo| ≤ 360 / (nZones 1 nl : ℚ) / 262144) ∧
    (∃ q, getPosition (α := ℚ) (encode 1 φo lo b0) (encode 0 φe le a0) = some q ∧ |q.lat - φe| ≤ 6 / 262144 ∧
        ∃ k : ℤ, |q.lon - 360 * k - le| ≤ 360 / (nZones 0 nl : ℚ) / 262144) := by
  obtain ⟨⟨q1, h1, l1, ⟨k1, e1⟩, _⟩, ⟨q0, h0, l0, ⟨k0, e0⟩, _⟩⟩ := cpr_global_decode φe le φo lo he ho hd a0 b0 nl hnle hnlo hlon
  refine ⟨⟨q1, h1, ?_, k1, ?_⟩, ⟨q0, h0, ?_, k0, ?_⟩⟩
  · rw [l1, ← dlat_one]; exact rlat_close 1 le_rfl φo
  · rw [e1, add_sub_cancel_right]; exact rlon_close 1 nl lo
  · rw [l0, ← dlat_zero]; exact rlat_close 0 zero_le_one φe
  · rw [e0, add_sub_cancel_right]; exact rlon_close 0 nl le

/-! ### the hypotheses are satisfiable (non-vacuity), and the inconsistent pair of finding F16 is rejected -/
example : (-90 : ℚ) ≤ 522572/10000 ∧ (522572/10000 : ℚ) ≤ 90 ∧ |(522572/10000 : ℚ) - 522578/10000| ≤ 1/20 := by
  norm_num [abs_le]
example : cprNl (α := ℚ) (rlat 0 (522572/10000)) = 36 := by decide +kernel
example : cprNl (α := ℚ) (rlat 1 (522578/10000)) = 36 := by decide +kernel
example : lonClose 36 (391937/100000) (391940/100000) := by
  right; exact ⟨0, by norm_num [abs_lt]⟩
/-- a pair in different NL bands (across the 10.47° transition) exists: `zone_mismatch_none` is not vacuous -/
example : cprNl (α := ℚ) (rlat 0 (10470/1000)) ≠ cprNl (α := ℚ) (rlat 1 (10471/1000)) := by decide +kernel
/-- F16: even `lat_cpr = 0` / odd `lat_cpr = 65536` cannot stem from one location; no position in either order -/
example : getPosition (α := ℚ) ⟨11, 0, 0, none, 0, 0, 0, 0⟩ ⟨11, 0, 0, none, 0, 1, 65536, 0⟩ = none ∧
    getPosition (α := ℚ) ⟨11, 0, 0, none, 0, 1, 65536, 0⟩ ⟨11, 0, 0, none, 0, 0, 0, 0⟩ = none := by decide +kernel

end Adsb.C05b
