import Adsb.Lemmas.CrcLin
import Adsb.Lemmas.CrcWeight
import Adsb.Lemmas.Reject
/-! # C03 — the checksum is the Mode S parity syndrome -/

namespace Adsb.C03
open Adsb.Spec

/-- the generated table holds the remainders of `i·x^24` modulo the generator (re-checked on every run) -/
theorem table_is_polynomial_remainders : ∀ i : BitVec 8, tableBV i = parity (byteBits ⟨i⟩) := table_correct

/-- **(a)** the table-driven loop computes the remainder of the leading bits (times x^24) modulo the generator,
for every byte string -/
theorem crcRem_is_parity (msg : List UInt8) : crcRem msg = parity (bitsOf msg) := crcRem_eq_parity msg

/-- the last 24 bits of a frame -/
def tailW (x y z : UInt8) : W := (x.toBitVec.setWidth 24 <<< 16) ^^^ (y.toBitVec.setWidth 24 <<< 8) ^^^ z.toBitVec.setWidth 24

/-- 24 bits are their own remainder -/
theorem syndrome_3bytes (x y z : UInt8) : syndrome (bitsOf [x, y, z]) = tailW x y z := by
  rw [syndrome_bitsOf_cons, syndrome_bitsOf_cons, syndrome_bitsOf_cons, show syndrome (bitsOf []) = 0 from rfl, xor_zero,
    mulXn_byte (8 * [y, z].length) (Nat.le_refl 16), mulXn_byte (8 * [z].length) (show 8 ≤ 16 by decide)]
  exact (BitVec.xor_assoc ..).symm

theorem take_succ_getD {α : Type} (l : List α) (k : Nat) (h : k < l.length) (d : α) :
    l.take (k + 1) = l.take k ++ [l.getD k d] := by
  rw [List.take_add_one, List.getD_eq_getElem?_getD, List.getElem?_eq_getElem h]; rfl

/-- **(a')** the reported checksum is the remainder of the whole `n`-byte frame, as a polynomial, modulo 0x1FFF409 -/
theorem crc_is_syndrome (msg : List UInt8) (n : Nat) (h3 : 3 ≤ n) (hn : n ≤ msg.length) :
    crcVal msg n = (syndrome (bitsOf (msg.take n))).toNat := by
  obtain ⟨k, rfl⟩ : ∃ k, n = k + 3 := ⟨n - 3, by omega⟩
  rw [show k + 3 = k + 1 + 1 + 1 from rfl, take_succ_getD _ _ (by omega) 0, take_succ_getD _ _ (by omega) 0,
    take_succ_getD _ _ (by omega) 0, List.append_assoc, List.append_assoc, List.singleton_append, List.singleton_append,
    bitsOf_append, syndrome_append, bitsOf_length, syndrome_3bytes, crcVal, crcRem_eq]
  rfl

/-- the checksum of a decoded frame is the polynomial remainder of its first `L` bytes -/
theorem decoded_crc_is_syndrome (B : Buf) (f : Frame) (h : decode B = .ok f) :
    ∃ L, frameLen (bitsAt B 0 5) = some L ∧ L ≤ B.len ∧ f.crc = (syndrome (bitsOf (B.bytes.take L))).toNat := by
  obtain ⟨L, hL, hlen, rfl⟩ := decoded B f h
  have := frameLen_ge _ _ hL
  exact ⟨L, hL, hlen, crc_is_syndrome B.bytes L (by omega) hlen⟩

theorem crcVal_append3 (lead : List UInt8) (x y z : UInt8) :
    crcVal (lead ++ [x, y, z]) (lead.length + 3) = (parity (bitsOf lead) ^^^ tailW x y z).toNat := by
  rw [crc_is_syndrome _ _ (by omega) (by simp), List.take_of_length_le (by simp), bitsOf_append, syndrome_append,
    syndrome_3bytes, bitsOf_length, parity_eq]
  rfl

/-- **(b)** the checksum is `a` exactly when the last 24 bits are the parity of the leading bits overlaid with `a`:
0 for an error-free squitter (DF17/18), the interrogator code for DF11, the address for DF0/4/5/16/20/21 -/
theorem crc_eq_iff_overlay (lead : List UInt8) (x y z : UInt8) (a : W) :
    crcVal (lead ++ [x, y, z]) (lead.length + 3) = a.toNat ↔ tailW x y z = parity (bitsOf lead) ^^^ a := by
  rw [crcVal_append3, BitVec.toNat_inj, ← BitVec.xor_right_inj (parity (bitsOf lead)), xor_cancel, eq_comm]

theorem crc_zero_iff_parity (lead : List UInt8) (x y z : UInt8) :
    crcVal (lead ++ [x, y, z]) (lead.length + 3) = 0 ↔ tailW x y z = parity (bitsOf lead) := by
  simpa using crc_eq_iff_overlay lead x y z 0

/-! ## (c) error detection: linearity, and every burst of up to 24 bits changes the syndrome -/

theorem fold_divStep_lin (a b : List Bool) (h : a.length = b.length) (r s : W) :
    (List.zipWith (· != ·) a b).foldl divStep (r ^^^ s) = a.foldl divStep r ^^^ b.foldl divStep s := by
  induction a generalizing b r s with
  | nil => cases b with
    | nil => rfl
    | cons _ _ => simp at h
  | cons x xs ih => cases b with
    | nil => simp at h
    | cons y ys =>
      simp only [List.zipWith_cons_cons, List.foldl_cons]
      rw [divStep_lin, ih ys (by simpa using h)]

/-- the syndrome of a corrupted frame is the syndrome of the frame xor the syndrome of the error pattern -/
theorem syndrome_xor (frame err : List Bool) (h : frame.length = err.length) :
    syndrome (List.zipWith (· != ·) frame err) = syndrome frame ^^^ syndrome err := by
  have := fold_divStep_lin frame err h 0 0
  simpa [syndrome] using this

def zeros (k : Nat) : List Bool := List.replicate k false

theorem syndrome_zeros (k : Nat) : syndrome (zeros k) = 0 := by
  induction k with
  | zero => rfl
  | succ k ih => rw [zeros, List.replicate_succ, syndrome_false]; exact ih

/-- **a burst of at most 24 bits anywhere in a frame has a non-zero syndrome**: it is the burst's own polynomial, of
degree below 24, times a power of x -/
theorem burst_syndrome_ne_zero (pre post : Nat) (e : List Bool) (he : e.length ≤ 24) (hne : ∃ b ∈ e, b = true) :
    syndrome (zeros pre ++ e ++ zeros post) ≠ 0 := by
  rw [syndrome_append, syndrome_append, syndrome_zeros, syndrome_zeros, mulXn_zero, zero_xor, xor_zero]
  exact fun hz => syndrome_short_ne_zero e he hne (mulXn_eq_zero _ _ hz)

/-- **(c) no burst of up to 24 bits turns a valid squitter into a frame reported with checksum 0**:
for a frame with syndrome 0 and a burst error pattern of the same length, the corrupted frame's syndrome is not 0 -/
theorem burst24_detected (frame : List Bool) (pre post : Nat) (e : List Bool) (he : e.length ≤ 24)
    (hne : ∃ b ∈ e, b = true) (hlen : frame.length = pre + e.length + post) (hvalid : syndrome frame = 0) :
    syndrome (List.zipWith (· != ·) frame (zeros pre ++ e ++ zeros post)) ≠ 0 := by
  rw [syndrome_xor frame _ (by simp [zeros, hlen]; omega), hvalid, zero_xor]
  exact burst_syndrome_ne_zero pre post e he hne

/-! ## (d) up to five bit flips -/

/-- **the syndrome of an error pattern with 1 to 5 set bits in at most 112 positions is never 0** (the parity code has
minimum distance ≥ 6 on 112-bit frames): odd weights by `g(1) = 0`, weights 2 and 4 because the 6329 sums of at most two
of the residues `x^0 … x^111 mod g` are pairwise different (kernel computation `vals_strict`) -/
theorem weight5_syndrome_ne_zero (err : List Bool) (hlen : err.length ≤ 112) (hw1 : 1 ≤ weight err) (hw5 : weight err ≤ 5) :
    syndrome err ≠ 0 := by
  rw [syndrome_positions]
  exact xorAt_ne_zero (posOf err) (posOf_desc err) (fun k hk => Nat.lt_of_lt_of_le (posOf_lt err k hk) hlen) hw1 hw5

/-- **(d) no corruption of a valid squitter by up to five bit flips is reported with checksum 0**: for a frame of at most
112 bits with syndrome 0 and an error pattern of the same length with 1 to 5 set bits, the corrupted frame's syndrome
is not 0.  With `decoded_crc_is_syndrome` this is a statement about `Frame.crc` of the corrupted squitter. -/
theorem weight5_detected (frame err : List Bool) (hlen : frame.length = err.length) (h112 : err.length ≤ 112)
    (hw1 : 1 ≤ weight err) (hw5 : weight err ≤ 5) (hvalid : syndrome frame = 0) :
    syndrome (List.zipWith (· != ·) frame err) ≠ 0 := by
  rw [syndrome_xor frame err hlen, hvalid, zero_xor]
  exact weight5_syndrome_ne_zero err h112 hw1 hw5

/-- the checksum of a 14-byte buffer decoded as a 112-bit format is 0 exactly when the buffer's syndrome is -/
theorem squitter_crc_zero_iff (B : Buf) (f : Frame) (hB : B.bytes.length = 14) (hd : decode B = .ok f)
    (hlong : frameLen (bitsAt B 0 5) = some 14) : f.crc = 0 ↔ syndrome (bitsOf B.bytes) = 0 := by
  obtain ⟨L, hL, _, hc⟩ := decoded_crc_is_syndrome B f hd
  rw [hlong] at hL
  cases hL
  rw [hc, List.take_of_length_le (by omega), ← BitVec.toNat_inj]
  rfl

/-- **(d), at the level of `Frame.crc`**: a 14-byte buffer that decodes with checksum 0, corrupted in 1 to 5 bit positions
into a buffer that is still decoded as a 112-bit format, is never reported with checksum 0.  (A corruption that clears the
first format bit turns the buffer into a 56-bit format, which is not an extended squitter: `C02.frame_lengths`.) -/
theorem corrupted_squitter_crc_ne_zero (B B' : Buf) (f f' : Frame) (hB : B.bytes.length = 14) (hB' : B'.bytes.length = 14)
    (hd : decode B = .ok f) (hd' : decode B' = .ok f') (hlong : frameLen (bitsAt B 0 5) = some 14)
    (hlong' : frameLen (bitsAt B' 0 5) = some 14) (hcrc : f.crc = 0)
    (err : List Bool) (herr : bitsOf B'.bytes = List.zipWith (· != ·) (bitsOf B.bytes) err) (hel : err.length = 112)
    (hw1 : 1 ≤ weight err) (hw5 : weight err ≤ 5) : f'.crc ≠ 0 := by
  rw [ne_eq, squitter_crc_zero_iff B' f' hB' hd' hlong', herr]
  exact weight5_detected _ err (by rw [bitsOf_length, hB, hel]) (by omega) hw1 hw5 ((squitter_crc_zero_iff B f hB hd hlong).mp hcrc)

/-- non-vacuity: an error pattern of weight 5 -/
example : weight [true, false, true, true, false, true, true] = 5 := by decide

/-! ## non-vacuity (tests): the README frame is a valid squitter -/
example : crcVal [0x8d, 0xa2, 0xc1, 0xbd, 0x58, 0x7b, 0xa2, 0xad, 0xb3, 0x17, 0x99, 0xcb, 0x80, 0x2b] 14 = 0 := by decide +kernel
example : syndrome (bitsOf [0x8d, 0xa2, 0xc1, 0xbd, 0x58, 0x7b, 0xa2, 0xad, 0xb3, 0x17, 0x99, 0xcb, 0x80, 0x2b]) = 0 := by decide +kernel

end Adsb.C03
