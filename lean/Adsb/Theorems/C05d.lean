import Adsb.Gen.CprFn
import Adsb.Theorems.C05b
import Adsb.Lemmas.Paths
/-! # C05 (part 4) — the theorems of C05 are about the function the source text contains today

`Gen/CprFn.lean` is written by `tools/rust2lean.py` from `cpr.rs` on every run: `positive_mod`, `get_lat_lon` and `get_position`
as terms over a structure of operations (`CprOps`), with every u64 subtraction written out as a check.  Here the translated terms are
instantiated with exact arithmetic — `%` as the remainder of the division truncated toward zero, which is what `fmod` computes (exactly)
on `f64` — and proved equal, for every pair of reports, to the hand-written `getPosition` that `cpr_global_decode`,
`cpr_position_error`, `cpr_correct_within_3NM` and the correspondence are about; no u64 check fires. -/

namespace Adsb.C05d
open Adsb.CprDecode Adsb.C05b

/-- `a % b` on exact numbers: `a - b * trunc(a / b)` -/
def ratRem (a b : ℚ) : ℚ := a - b * (if 0 ≤ a / b then ((⌊a / b⌋ : ℤ) : ℚ) else ((⌈a / b⌉ : ℤ) : ℚ))

/-- the exact instance of the operations of `cpr.rs` -/
def ratCpr : CprOps ℚ where
  lit n := (n : ℚ)
  half := 1 / 2
  add := (· + ·)
  sub := (· - ·)
  mul := (· * ·)
  div := (· / ·)
  rem := ratRem
  floor q := ((⌊q⌋ : ℤ) : ℚ)
  ltb a b := decide (a < b)
  leb a b := decide (a ≤ b)
  nl := cprNl

/-- `positive_mod` of the source is `a - b·⌊a / b⌋` for every positive `b` (the `if ret < 0 { ret += b }` repairs the truncation) -/
theorem src_positive_mod (a b : ℚ) (hb : 0 < b) : Gen.positiveModSrc ratCpr a b = a - b * ((⌊a / b⌋ : ℤ) : ℚ) := by
  have ha : a = b * (a / b) := (mul_div_cancel₀ a hb.ne').symm
  show (if decide (ratRem a b < ((0 : ℕ) : ℚ)) = true then ratRem a b + b else ratRem a b) = _
  unfold ratRem
  generalize a / b = q at ha ⊢
  subst ha
  simp only [Nat.cast_zero, decide_eq_true_eq, ← mul_sub, mul_neg_iff, hb, not_lt_of_gt hb, true_and, false_and, or_false, sub_neg]
  -- the remainder is negative exactly when the quotient was rounded up; then `⌈q⌉ = ⌊q⌋ + 1`, otherwise `⌈q⌉ = ⌊q⌋`
  split_ifs with h0 h h
  · exact absurd (Int.floor_le q) h.not_ge
  · rfl
  · rw [le_antisymm (Int.ceil_le_floor_add_one q) (Int.floor_lt.mpr h)]; push_cast; ring
  · rw [le_antisymm (Int.le_floor.mpr (not_lt.mp h)) (Int.floor_le_ceil q)]

@[simp] theorem r_lit (n : ℕ) : ratCpr.lit n = (n : ℚ) := rfl
@[simp] theorem r_half : ratCpr.half = 1 / 2 := rfl
@[simp] theorem r_add (a b : ℚ) : ratCpr.add a b = a + b := rfl
@[simp] theorem r_sub (a b : ℚ) : ratCpr.sub a b = a - b := rfl
@[simp] theorem r_mul (a b : ℚ) : ratCpr.mul a b = a * b := rfl
@[simp] theorem r_div (a b : ℚ) : ratCpr.div a b = a / b := rfl
@[simp] theorem r_floor (q : ℚ) : ratCpr.floor q = ((⌊q⌋ : ℤ) : ℚ) := rfl
@[simp] theorem r_ltb (a b : ℚ) : ratCpr.ltb a b = decide (a < b) := rfl
@[simp] theorem r_leb (a b : ℚ) : ratCpr.leb a b = decide (a ≤ b) := rfl
theorem r_nl (a : ℚ) : ratCpr.nl a = cprNl a := by simp only [ratCpr]
attribute [cpr_rat] r_lit r_half r_add r_sub r_mul r_div r_floor r_ltb r_leb r_nl

theorem ite_bnot {α : Sort _} (b : Bool) (x y : α) : (if (!b) = true then x else y) = if b = true then y else x := by
  cases b <;> rfl

/-- **`get_lat_lon` of the source**: no u64 check fires (the zone count is at least 1) and the result is the model's -/
theorem src_get_lat_lon (lat le lo : ℚ) (fmtEven : Bool) :
    Gen.getLatLonSrc ratCpr lat le lo fmtEven = (false, getLatLon lat le lo (!fmtEven)) := by
  have hnl : ¬ cprNl lat < 1 := by have := (cprNl_range lat).1; omega
  have hk : ¬ cprNl lat < (if fmtEven = true then 0 else 1) := by split <;> omega
  unfold Gen.getLatLonSrc getLatLon
  simp only [cpr_rat, pmod, src_positive_mod, Nat.cast_pos, lt_max_iff, zero_lt_one, or_true, ite_bnot, hnl, hk, decide_false, Bool.or_false]

/-- **`get_position` of the source is the model the theorems are about**: for every pair of reports whose format bits are bits (`f ≤ 1`; the
field is one bit wide in the frame), the translated function, in exact arithmetic, fires no u64 check and returns what `getPosition` returns.
(Without the hypothesis the two differ, and rightly: the model tells the formats apart by `f ≠ 0`, the source by the two-variant enum.) -/
theorem src_get_position (a b : Alt) (ha : a.f ≤ 1) (hb1 : b.f ≤ 1) : Gen.getPositionSrc ratCpr a b = (false, getPosition (α := ℚ) a b) := by
  unfold Gen.getPositionSrc getPosition latPair inRange
  by_cases hf : a.f = b.f
  · simp [hf]
  · -- the source selects the latest report's latitude by `latest == even` (the two-variant enum), the model by `b.f != 0`
    have hl : (b = if a.f = 0 then a else b) ↔ b.f = 0 := by
      split_ifs with h0
      · exact ⟨fun h => absurd (h ▸ rfl) hf, fun h => absurd (h0.trans h.symm) hf⟩
      · exact ⟨fun _ => by omega, fun _ => rfl⟩
    have k60 : ((4 : ℕ) : ℚ) * ((15 : ℕ) : ℚ) = ((60 : ℕ) : ℚ) := by norm_num
    have k59 : ((60 : ℕ) : ℚ) - ((1 : ℕ) : ℚ) = ((59 : ℕ) : ℚ) := by norm_num
    generalize (if a.f = 0 then a else b) = even at hl ⊢
    generalize (if a.f = 0 then b else a) = odd
    simp only [hf, if_false, cpr_rat, pmod, src_positive_mod, Nat.cast_pos, Nat.ofNat_pos, src_get_lat_lon, Gen.cprMax, Gen.nz, hl,
      k60, k59, Nat.cast_zero, zero_sub, Bool.not_and, bne, Bool.not_eq_true', beq_eq_false_iff_ne, ne_eq, ite_not, decide_eq_true_eq,
      Bool.or_false, apply_ite (Prod.mk false)]

/-- **the property, for the function as written today**: under the hypotheses of `cpr_position_error` (two reports within 3 NM in latitude, same
zone count, longitudes close), `get_position` *of the source text* — in exact arithmetic — panics on no u64 check and returns, in either order,
the latest report's position within half a CPR bin. -/
theorem src_cpr_position_error (φe le φo lo : ℚ) (he : -90 ≤ φe ∧ φe ≤ 90) (ho : -90 ≤ φo ∧ φo ≤ 90) (hd : |φe - φo| ≤ 1 / 20)
    (a0 b0 : Alt) (nl : ℕ) (hnle : cprNl (rlat 0 φe) = nl) (hnlo : cprNl (rlat 1 φo) = nl) (hlon : lonClose nl le lo) :
    (∃ q, Gen.getPositionSrc ratCpr (encode 0 φe le a0) (encode 1 φo lo b0) = (false, some q) ∧ |q.lat - φo| ≤ 360 / 59 / 262144 ∧
        ∃ k : ℤ, |q.lon - 360 * k - lo| ≤ 360 / (nZones 1 nl : ℚ) / 262144) ∧
    (∃ q, Gen.getPositionSrc ratCpr (encode 1 φo lo b0) (encode 0 φe le a0) = (false, some q) ∧ |q.lat - φe| ≤ 6 / 262144 ∧
        ∃ k : ℤ, |q.lon - 360 * k - le| ≤ 360 / (nZones 0 nl : ℚ) / 262144) := by
  have fe : (encode 0 φe le a0).f ≤ 1 := Nat.zero_le 1
  have fo : (encode 1 φo lo b0).f ≤ 1 := le_refl 1
  simpa only [src_get_position _ _ fe fo, src_get_position _ _ fo fe, Prod.mk.injEq, true_and] using
    cpr_position_error φe le φo lo he ho hd a0 b0 nl hnle hnlo hlon

/-- **… for every pair of decoded frames**: the airborne-position payload of any two buffers (`altAt`, what `Frame.decode` returns for type
codes 9–18 and 20–22, `Lemmas/Paths`) has one-bit format fields, so the hypothesis of `src_get_position` is met by everything the decoder
can hand to `get_position` -/
theorem src_get_position_decoded (B1 B2 : Buf) :
    Gen.getPositionSrc ratCpr (altAt B1) (altAt B2) = (false, getPosition (α := ℚ) (altAt B1) (altAt B2)) :=
  src_get_position _ _ (Nat.le_of_lt_succ (bitsAt_lt B1 53 1)) (Nat.le_of_lt_succ (bitsAt_lt B2 53 1))

/-- two reports of one format never pair, in the source as in the model -/
theorem src_same_parity_none (a b : Alt) (h : a.f = b.f) : Gen.getPositionSrc ratCpr a b = (false, none) := by
  unfold Gen.getPositionSrc; simp [h]

/-- the translated function, evaluated exactly in the kernel on the textbook pair (even 93000 / 51372, odd 74158 / 50194, even latest):
no check fires and the result is 52.2572…°N 3.9193…°E; with the order swapped the odd report's position -/
def near (r : Bool × Option (Position ℚ)) (lat lon : ℚ) : Bool :=
  match r with
  | (false, some q) => decide (lat - 1 / 1000 < q.lat) && decide (q.lat < lat + 1 / 1000) && decide (lon - 1 / 1000 < q.lon) && decide (q.lon < lon + 1 / 1000)
  | _ => false
example : near (Gen.getPositionSrc ratCpr ⟨11, 0, 0, none, 0, 1, 74158, 50194⟩ ⟨11, 0, 0, none, 0, 0, 93000, 51372⟩) (522572 / 10000) (39193 / 10000) = true := by
  decide +kernel
example : near (Gen.getPositionSrc ratCpr ⟨11, 0, 0, none, 0, 0, 93000, 51372⟩ ⟨11, 0, 0, none, 0, 1, 74158, 50194⟩) (522658 / 10000) (39381 / 10000) = true := by
  decide +kernel

end Adsb.C05d
