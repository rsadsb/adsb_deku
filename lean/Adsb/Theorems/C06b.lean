import Adsb.Gen.Fns
import Adsb.Theorems.C06
import Adsb.Theorems.C09
import Adsb.Lemmas.ModeAC
/-! # C06 / C09 / C07 / C10 (part 2) — the altitude, identity and `map`-closure functions *as translated from the source on this run*

`Gen.decodeId13Src`, `Gen.modeAToCSrc`, `Gen.ac13Src`, `Gen.ac12Src`, `Gen.identitySrc` and the `map` closures are produced by
`tools/rust2lean.py` from the text of `mode_ac.rs` and of the custom readers in `lib.rs` every time a check runs, with Rust's overflow
checks written out. The theorems below state that they (a) never panic and (b) return the altitude / squawk Annex 10 assigns — so
for these functions the property theorems are re-checked against what the code says now, not against a hand-written copy of it.
Each is shown equal to the hand-written model function (`decodeId13`, `modeAToC`, `ac13`, `ac12`, `identityCode`), which the decoder
model and all other theorems use, by an argument that follows the emitted statements, for every argument (`Gen.ac13Src`: every `u32`;
two closures: below their overflow bound). The overflow checks cannot fire because of the bounds in `Lemmas/ModeAC.lean`, and because
a bit or a three-bit digit shifted by at most 12 stays inside `u32`. -/

namespace Adsb.C06b
open Adsb.MiniRust

def isRes (r : Res Val) (v : Option Nat) : Bool :=
  match r, v with
  | .ok (.num n), some w => n == w
  | .ok .err, none => true
  | _, _ => false

def optVal : Option Nat → Val | some w => .num w | none => .none

/-! ## the fields have the widths the standard gives them -/

theorem reader_widths : Gen.ac13SrcBits = 13 ∧ Gen.ac12SrcBits = 12 ∧ Gen.identitySrcBits = 13 := by decide

/-! ## the translated functions against the hand-written model -/

/-- the translator's accumulate-under-a-condition statement, as the model writes it -/
theorem ite_or (c : Bool) (v k : Nat) : (if c then v ||| k else v) = v ||| (if c then k else 0) := by
  cases c <;> simp

/-- `decode_id13_field` as written in `mode_ac.rs` today = the model's `decodeId13`, no panic, on every argument: the same twelve
conditional ORs in the same order -/
theorem src_decodeId13 (c : Nat) : Gen.decodeId13Src c = .ok (.num (decodeId13 c)) := by
  simp only [Gen.decodeId13Src, decodeId13, bitSet, ite_or, Nat.zero_or]
  rfl

theorem ite_xor (c : Bool) (v k : Nat) : (if c then v ^^^ k else v) = v ^^^ (if c then k else 0) := by
  cases c <;> simp

def errVal : Option Nat → Val | some w => .num w | none => .err

/-- `mode_a_to_mode_c` as written in `mode_ac.rs` today = the model's `modeAToC` (`Err` for `none`), no panic, on every argument.
Both compute the same two XOR chains (the 100-ft code `oh`, the 500-ft count `fh`): they are named in the model by their last link,
and the source's statements accumulate to the same terms; with these named, the overflow flags are `6 - oh` under `oh ≤ 6`,
products of `fh < 256` (`fh_lt`), and `n - 13` under `13 ≤ n`. -/
theorem src_modeAToC (a : Nat) : Gen.modeAToCSrc a = .ok (errVal (modeAToC a)) := by
  unfold modeAToC
  -- `delta`, not `simp only [bitSet]`: the `Decidable` instances of the model's `if`s mention `bitSet` too
  delta bitSet
  generalize hfh : _ ^^^ (if (a &&& 1024 != 0) = true then 1 else 0) = fh
  have hf : fh < 256 := hfh ▸ fh_lt ..
  generalize ho : _ ^^^ (if (a &&& 64 != 0) = true then 1 else 0) = o
  simp only [Gen.modeAToCSrc, ite_xor, Nat.zero_xor, hfh, ho, Bool.false_or, Bool.false_eq_true, if_false]
  generalize (o ^^^ if (o &&& 5 == 5) = true then 2 else 0) = oh
  cases (a &&& 4294936713 != 0 || a &&& 240 == 0)
  · simp only [Bool.false_eq_true, if_false, Nat.blt_eq, Nat.ble_eq, Bool.or_eq_true, Bool.and_eq_true, decide_eq_true_eq, gt_iff_lt, ge_iff_le]
    by_cases h5 : 5 < oh
    · rw [if_pos h5, if_pos h5]; rfl
    · rw [if_neg h5, if_neg h5]
      have hx : (if (fh &&& 1 != 0) = true ∧ oh ≤ 6 then 6 - oh else oh) ≤ 6 := by split <;> omega
      generalize (if (fh &&& 1 != 0) = true ∧ oh ≤ 6 then 6 - oh else oh) = x at hx ⊢
      split <;> rw [if_neg (by omega)] <;> rfl
  · rfl

/-- the same over the 13-bit codes, worded as an evaluation; it is the instance of `src_modeAToC` -/
theorem src_modeAToC_all :
    allRange (fun c => isRes (Gen.modeAToCSrc (decodeId13 c)) (modeAToC (decodeId13 c))) 0 8192 14 = true :=
  allRange_complete _ 13 0 8192 (by decide) fun c _ _ => by
    rw [src_modeAToC]; cases modeAToC (decodeId13 c) <;> simp [isRes, errVal]

/-- `AC13Field::read` (after its 13-bit read) as written today = the model's `ac13`, no panic, for every value it can widen to `u32`:
the branches of the model, with the two calls rewritten and each overflow flag refuted by `q_count_lt` / `modeAToC_lt` -/
theorem src_ac13 (c : Nat) (h : c < 4294967296) : Gen.ac13Src c = .ok (.num (ac13 c)) := by
  have hq := q_count_lt c
  unfold Gen.ac13Src ac13
  simp only [Nat.mod_eq_of_lt h, src_decodeId13, notNum, numOf, src_modeAToC, Bool.false_or, Bool.false_eq_true, if_false, Bool.or_eq_true,
    Nat.ble_eq, Nat.blt_eq, apply_ite (fun v => Res.ok (Val.num v))]
  -- both sides make the same three tests
  refine ite_congr rfl (fun _ => rfl) fun _ => ite_congr rfl (fun _ => rfl) fun _ => ite_congr rfl (fun _ => ?_) fun _ => ?_
  · split <;> rw [if_neg (by omega)]
  · cases hm : modeAToC (decodeId13 c) with
    | none => rfl
    | some m =>
      have := modeAToC_lt hm
      simp only [errVal]
      rw [if_neg (by omega)]
      split <;> rfl

theorem shl_lt {d m : Nat} (k : Nat) (hd : d < 2 ^ m) : d <<< k < 2 ^ (m + k) := by
  rw [Nat.shiftLeft_eq, Nat.pow_add]; exact Nat.mul_lt_mul_of_pos_right hd (Nat.two_pow_pos k)

/-- a value of `m` bits shifted by `k` stays inside `u32` when `m + k ≤ 32` -/
theorem shl_mod {d m : Nat} (k : Nat) (hd : d < 2 ^ m) (hk : m + k ≤ 32) : d <<< k % 4294967296 = d <<< k :=
  Nat.mod_eq_of_lt (Nat.lt_of_lt_of_le (shl_lt k hd) (Nat.pow_le_pow_right (by decide) hk))

/-- `Altitude::read` (after its 12-bit read) as written today = the model's `ac12`, no panic, on every argument, in the same way -/
theorem src_ac12 (c : Nat) : Gen.ac12Src c = .ok (optVal (ac12 c)) := by
  have hq : ((c &&& 4064) >>> 1 ||| c &&& 15) < 2 ^ 11 := Nat.or_lt_two_pow (shr_and_lt (by decide)) (Nat.and_lt_two_pow _ (by decide))
  have hs := shl_mod 1 (Nat.and_lt_two_pow c (by decide : 4032 < 2 ^ 12)) (by decide)
  unfold Gen.ac12Src ac12
  simp only [hs, src_decodeId13, notNum, numOf, src_modeAToC, Bool.false_or, Bool.false_eq_true, or_false, Bool.or_eq_true, Nat.blt_eq, Nat.ble_eq,
    Nat.pos_iff_ne_zero, bne_iff_ne, beq_iff_eq, apply_ite (fun v => Res.ok (optVal v))]
  refine ite_congr rfl (fun _ => ?_) fun _ => ?_
  · split
    · rw [if_neg (by omega)]; split <;> rfl
    · rw [if_neg (by omega)]; rfl
  · cases hm : modeAToC (decodeId13 ((c &&& 4032) <<< 1 ||| c &&& 63)) with
    | none => rfl
    | some m =>
      have := modeAToC_lt hm
      simp only [errVal]
      rw [if_neg (by omega)]
      by_cases a : m * 100 < 65536
      · by_cases z : m * 100 = 0
        · rw [if_pos a, if_pos z, if_neg (fun x => x.2 z)]; rfl
        · rw [if_pos a, if_neg z, if_pos ⟨a, z⟩]; rfl
      · rw [if_neg a, if_neg (fun x => a x.1)]; rfl

theorem bit_lt (x : Nat) : x &&& 1 < 2 ^ 1 := Nat.lt_succ_of_le Nat.and_le_right

theorem digit_lt (x y z : Nat) : ((x &&& 1) <<< 2 ||| (y &&& 1) <<< 1 ||| z &&& 1) < 2 ^ 3 :=
  Nat.or_lt_two_pow (Nat.or_lt_two_pow (shl_lt 2 (bit_lt x)) (Nat.lt_trans (shl_lt 1 (bit_lt y)) (by decide))) (Nat.lt_trans (bit_lt z) (by decide))

/-- `IdentityCode::read` (after its 13-bit read) as written today = the model's `identityCode`, no panic, on every argument:
`(v &&& 2 ^ k) >>> k` is the model's `(v >>> k) &&& 1`, and no shift of a bit or of a three-bit digit leaves `u32` -/
theorem src_identity (c : Nat) : Gen.identitySrc c = .ok (.num (identityCode c)) := by
  unfold Gen.identitySrc identityCode
  simp only [Nat.shiftRight_and_distrib, Nat.reduceShiftRight, Nat.shiftRight_zero,
    shl_mod _ (bit_lt _) (by decide : 1 + 2 ≤ 32), shl_mod _ (bit_lt _) (by decide : 1 + 1 ≤ 32),
    shl_mod _ (digit_lt _ _ _) (by decide : 3 + 12 ≤ 32), shl_mod _ (digit_lt _ _ _) (by decide : 3 + 8 ≤ 32),
    shl_mod _ (digit_lt _ _ _) (by decide : 3 + 4 ≤ 32)]
  rw [if_neg (by decide)]

/-! ## the property, stated on the source as translated -/

/-- **C06 on the source text**: every 13-bit altitude code is decoded, by the function as it is written in the repository on this
run, to its Annex 10 altitude (0 = no altitude), without panicking -/
theorem src_ac13_is_annex10 (c : Nat) (h : c < 8192) : Gen.ac13Src c = .ok (.num (C06.noAlt13 (Spec.ac13 c))) := by
  rw [src_ac13 c (by omega), C06.ac13_spec c h]

/-- **C06 on the source text**, 12-bit codes (`none` = no altitude) -/
theorem src_ac12_is_annex10 (c : Nat) (h : c < 4096) :
    Gen.ac12Src c = .ok (optVal (Spec.ac12 c)) := by
  rw [src_ac12 c, C06.ac12_spec c h]

/-- **C09 on the source text**: the DF5 identity reader as written today yields the four octal digits of the standard -/
theorem src_identity_is_squawk (c : Nat) (h : c < 8192) : Gen.identitySrc c = .ok (.num (Spec.squawk c)) := by
  rw [src_identity c, C09.identityCode_spec c]

/-- **C09 on the source text**: the shared de-interleaver (DF21, type 28) agrees with the DF5 reader on every code -/
theorem src_carriers_agree (c : Nat) (h : c < 8192) :
    Gen.decodeId13Src c = Gen.identitySrc c := by
  rw [src_decodeId13, src_identity c, C09.carriers_agree c h]

/-! ## the integer `map` closures of the deku attributes, as translated (C07, C09, C10) -/

/-- the three arithmetic closures, for every argument whose product fits the Rust type; truncated subtraction absorbs the `== 0` case -/
theorem airspeedMapSrc_eq (r : Nat) : Gen.airspeedMapSrc r = .ok (.num (r - 1)) := by
  unfold Gen.airspeedMapSrc
  simp only [Nat.blt_eq, Bool.false_or, Bool.and_eq_true]
  rw [if_neg (by omega)]
  congr 2; split <;> omega

theorem selAltMapSrc_eq (n : Nat) (h : (n - 1) * 32 < 2 ^ 32) : Gen.selAltMapSrc n = .ok (.num ((n - 1) * 32)) := by
  unfold Gen.selAltMapSrc
  simp only [Nat.blt_eq, Nat.ble_eq, Bool.false_or, Bool.or_eq_true, Bool.and_eq_true]
  rw [if_neg (by omega)]
  congr 2; split <;> omega

theorem gnssDiffMapSrc_eq (r : Nat) (h : (r - 1) * 25 < 65536) : Gen.gnssDiffMapSrc r = .ok (.num ((r - 1) * 25)) := by
  unfold Gen.gnssDiffMapSrc
  simp only [Nat.blt_eq, Nat.ble_eq, Bool.false_or, Bool.or_eq_true, Bool.and_eq_true]
  rw [if_neg (by omega)]
  congr 2; split <;> omega

/-- the two squawk closures only call `decode_id13_field` -/
theorem statusSquawkMapSrc_eq (c : Nat) : Gen.statusSquawkMapSrc c = .ok (.num (decodeId13 c)) := by
  simp only [Gen.statusSquawkMapSrc, src_decodeId13, notNum, numOf]; rfl
theorem df21IdMapSrc_eq (c : Nat) : Gen.df21IdMapSrc c = .ok (.num (decodeId13 c)) := by
  simp only [Gen.df21IdMapSrc, src_decodeId13, notNum, numOf]; rfl

/-- **C07 on the source text**: airspeed = raw − 1 kt (0 = no information) for every 10-bit value, no panic -/
theorem src_airspeed (r : Nat) (h : r < 1024) : Gen.airspeedMapSrc r = .ok (.num (if r = 0 then 0 else r - 1)) := by
  rw [airspeedMapSrc_eq]; congr 2; split <;> omega

/-- **C10 on the source text**: selected altitude = (N − 1)·32 ft (0 = no information) for every 11-bit value, no panic -/
theorem src_selected_altitude (n : Nat) (h : n < 2048) : Gen.selAltMapSrc n = .ok (.num (if n = 0 then 0 else (n - 1) * 32)) := by
  rw [selAltMapSrc_eq n (by omega)]; congr 2; split <;> omega

/-- **C07 on the source text**: GNSS-baro difference = (raw − 1)·25 ft (0 = no information) for every 7-bit value, no panic -/
theorem src_gnss_difference (r : Nat) (h : r < 128) : Gen.gnssDiffMapSrc r = .ok (.num (if r = 0 then 0 else (r - 1) * 25)) := by
  rw [gnssDiffMapSrc_eq r (by omega)]; congr 2; split <;> omega

/-- **C09 on the source text**: the type-28 and DF21 squawk closures yield the standard's four octal digits for every 13-bit field -/
theorem src_squawk_maps (c : Nat) (h : c < 8192) :
    Gen.statusSquawkMapSrc c = .ok (.num (Spec.squawk c)) ∧ Gen.df21IdMapSrc c = .ok (.num (Spec.squawk c)) := by
  rw [statusSquawkMapSrc_eq, df21IdMapSrc_eq, C09.decodeId13_spec c]; exact ⟨rfl, rfl⟩

/-- a concrete instance: code 0x0c38 is 18 800 ft through the source's own statements (Q = 1 branch) -/
example : Gen.ac13Src 0x0c38 = .ok (.num 18800) := by rfl

end Adsb.C06b
