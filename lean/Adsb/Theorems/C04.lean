import Adsb.Lemmas.Reject
import Adsb.Spec.Fields
import Adsb.Icao
/-! # C04 — address and header fields are taken verbatim from the frame -/

namespace Adsb.C04
open Adsb.Spec

/-- the announced address of the formats that carry one -/
def announced : DF → Option Nat
  | .adsb _ icao _ _ => some icao
  | .allCall _ icao _ => some icao
  | .tisb _ aa _ _ => some aa
  | .modeS _ _ icao _ _ _ => some icao
  | _ => none

/-- the trailing address/parity (or parity/interrogator) field of the formats that expose one -/
def trailer : DF → Option Nat
  | .adsb _ _ _ pi => some pi
  | .allCall _ _ p => some p
  | .shortAirAir _ _ _ _ _ _ _ _ p => some p
  | .survAlt _ _ _ _ p => some p
  | .survId _ _ _ _ p => some p
  | .longAirAir _ _ _ _ _ _ _ _ p => some p
  | .tisb _ _ _ pi => some pi
  | .commBId _ _ _ _ _ p => some p
  | .modeS _ _ _ _ _ p => some p
  | .military _ => none
  | .commBAlt .. => none

/-- **the announced address is frame bits 9–32**, whatever the rest of the frame contains -/
theorem aa_verbatim (B : Buf) (f : Frame) (h : decode B = .ok f) (a : Nat) (ha : announced f.df = some a) :
    a = AA.of B := by
  obtain ⟨L, hL, _, rfl⟩ := decoded B f h
  revert a
  refine dfAt_cases B hL (motive := fun _ _ df => ∀ a, announced df = some a → a = bitsAt B 8 24) ?_ ?_ ?_ ?_ ?_ ?_ ?_ ?_ ?_ ?_ ?_
  all_goals intros; rename_i h; cases h <;> rfl

/-- **the trailing field is the frame's last 24 bits** -/
theorem trailer_verbatim (B : Buf) (f : Frame) (h : decode B = .ok f) (p : Nat) (hp : trailer f.df = some p) :
    ∃ L, frameLen (bitsAt B 0 5) = some L ∧ p = bitsAt B (8 * L - 24) 24 := by
  obtain ⟨L, hL, _, rfl⟩ := decoded B f h
  refine ⟨L, hL, ?_⟩
  revert p
  refine dfAt_cases B hL (motive := fun _ L df => ∀ p, trailer df = some p → p = bitsAt B (8 * L - 24) 24)
    ?_ ?_ ?_ ?_ ?_ ?_ ?_ ?_ ?_ ?_ ?_
  all_goals intros; rename_i h; cases h <;> rfl

/-! ## header fields, per format, at their Annex 10 positions -/

theorem df0_header (B : Buf) (f : Frame) (h : decode B = .ok f) (hid : DFcode.of B = 0) :
    f.df = .shortAirAir (VS.of B) (CC.of B) (bitsAt B 7 1) (SL.of B) (bitsAt B 11 2) (RI.of B) (bitsAt B 17 2)
      (ac13 (AC.of B)) (APshort.of B) := by
  obtain ⟨L, _, _, rfl⟩ := decoded B f h; exact dfAt_0 B hid

theorem df16_header (B : Buf) (f : Frame) (h : decode B = .ok f) (hid : DFcode.of B = 16) :
    f.df = .longAirAir (VS.of B) (bitsAt B 6 2) (SL.of B) (bitsAt B 11 2) (RI.of B) (bitsAt B 17 2) (ac13 (AC.of B))
      (MV.of B) (APlong.of B) := by
  obtain ⟨L, _, _, rfl⟩ := decoded B f h; exact dfAt_16 B hid

/-- FS, DR, UM (IIS, IDS), AC/ID and the trailer of the surveillance and Comm-B replies -/
theorem df4_5_20_21_header (B : Buf) (f : Frame) (h : decode B = .ok f) :
    (drAt B).id = DRQ.of B ∧ ((drAt B).unknown = none ∨ (drAt B).unknown = some (DRQ.of B)) ∧
    (DFcode.of B = 4 → f.df = .survAlt (FS.of B) (drAt B) ⟨IIS.of B, IDS.of B⟩ (ac13 (AC.of B)) (APshort.of B)) ∧
    (DFcode.of B = 5 → f.df = .survId (FS.of B) (drAt B) ⟨IIS.of B, IDS.of B⟩ (identityCode (ID.of B)) (APshort.of B)) ∧
    (DFcode.of B = 20 → f.df = .commBAlt (FS.of B) (drAt B) ⟨IIS.of B, IDS.of B⟩ (ac13 (AC.of B)) (bdsAt B)) ∧
    (DFcode.of B = 21 → f.df = .commBId (FS.of B) (drAt B) ⟨IIS.of B, IDS.of B⟩ (decodeId13 (ID.of B)) (bdsAt B) (APlong.of B)) := by
  obtain ⟨L, _, _, rfl⟩ := decoded B f h
  refine ⟨rfl, ?_, dfAt_4 B, dfAt_5 B, dfAt_20 B, dfAt_21 B⟩
  unfold drAt; simp only []; split
  · left; rfl
  · right; rfl

theorem capAt_spec (B : Buf) :
    (capAt B).id = CA.of B ∧ (1 ≤ (capAt B).id ∧ (capAt B).id ≤ 3 → (capAt B).reserved = CA.of B) := by
  unfold capAt Field.of CA
  refine ⟨rfl, fun hr => ?_⟩
  simp only [] at hr ⊢
  rw [if_pos hr]

/-- CA / AA / PI of DF11, DF17 and DF24–31 (CA also for the reserved values 1–3); CF of DF18; AF of DF19 -/
theorem ca_cf_af_verbatim (B : Buf) (f : Frame) (h : decode B = .ok f) :
    (DFcode.of B = 17 → f.df = .adsb (capAt B) (AA.of B) (meAt B) (APlong.of B)) ∧
    (DFcode.of B = 11 → f.df = .allCall (capAt B) (AA.of B) (APshort.of B)) ∧
    (24 ≤ DFcode.of B → f.df = .modeS (DFcode.of B) (capAt B) (AA.of B) (bitsAt B 32 5) (leBitsAt B 37 51) (APlong.of B)) ∧
    (DFcode.of B = 18 → f.df = .tisb (CF.of B) (AA.of B) (meAt B) (APlong.of B)) ∧
    (DFcode.of B = 19 → f.df = .military (AF.of B)) := by
  obtain ⟨L, _, _, rfl⟩ := decoded B f h
  exact ⟨dfAt_17 B, dfAt_11 B, dfAt_24 B, dfAt_18 B, dfAt_19 B⟩

/-! ## the textual form of an address -/

theorem hexVal_hexDigit : ∀ d, d < 16 → hexVal (hexDigit d) = some d := by decide +kernel

theorem hexDigit_lower : ∀ d, d < 16 → (('0' ≤ hexDigit d ∧ hexDigit d ≤ '9') ∨ ('a' ≤ hexDigit d ∧ hexDigit d ≤ 'f')) := by decide +kernel

theorem fold_toHex (w : Nat) : ∀ n acc, n < 16 ^ w → (toHex n w).foldl hexStep (some acc) = some (acc * 16 ^ w + n) := by
  induction w with
  | zero => intro n acc h; simp at h; subst h; simp [toHex]
  | succ w ih =>
    intro n acc h
    rw [Nat.pow_succ] at h
    rw [toHex, List.foldl_append, ih (n / 16) acc (by omega), List.foldl_cons, List.foldl_nil]
    simp only [hexStep, hexVal_hexDigit (n % 16) (Nat.mod_lt _ (by decide))]
    rw [Nat.pow_succ, ← Nat.mul_assoc]
    exact congrArg some (by omega)

theorem toHex_length (n w : Nat) : (toHex n w).length = w := by
  induction w generalizing n with
  | zero => rfl
  | succ w ih => simp [toHex, ih]

theorem toHex_lower (n w : Nat) : ∀ c ∈ toHex n w, ('0' ≤ c ∧ c ≤ '9') ∨ ('a' ≤ c ∧ c ≤ 'f') := by
  induction w generalizing n with
  | zero => intro c hc; simp [toHex] at hc
  | succ w ih =>
    intro c hc
    simp only [toHex, List.mem_append, List.mem_singleton] at hc
    rcases hc with hc | hc
    · exact ih _ c hc
    · subst hc; exact hexDigit_lower _ (Nat.mod_lt _ (by decide))

theorem stripPlus_of_not_mem {s : List Char} (h : '+' ∉ s) : stripPlus s = s := by
  unfold stripPlus
  split
  · exact absurd List.mem_cons_self h
  · rfl

/-- **text round trip**: every 24-bit address prints as six lower-case hex digits that parse back to it -/
theorem icao_text_roundtrip (a : Nat) (h : a < 2 ^ 24) :
    (icaoToString a).length = 6 ∧ (∀ c ∈ icaoToString a, ('0' ≤ c ∧ c ≤ '9') ∨ ('a' ≤ c ∧ c ≤ 'f')) ∧
    parseRadix16 (icaoToString a) = some a := by
  refine ⟨toHex_length a 6, toHex_lower a 6, ?_⟩
  have hne : '+' ∉ toHex a 6 := fun hm => by have := toHex_lower a 6 _ hm; revert this; decide
  unfold parseRadix16 icaoToString
  simp only [stripPlus_of_not_mem hne]
  rw [show (toHex a 6).isEmpty = false from rfl, fold_toHex 6 a 0 h, Nat.zero_mul, Nat.zero_add]
  show (if a < 2 ^ 32 then some (a % 2 ^ 24) else none) = some a
  rw [if_pos (by omega), Nat.mod_eq_of_lt h]

/-! ## non-vacuity (tests) -/
example : announced (dfAt ⟨[0x8d, 0xa2, 0xc1, 0xbd, 0x58, 0x7b, 0xa2, 0xad, 0xb3, 0x17, 0x99, 0xcb, 0x80, 0x2b]⟩) = some 0xa2c1bd := by decide +kernel
example : String.ofList (icaoToString 0x0a0b0c) = "0a0b0c" := by decide +kernel

end Adsb.C04
