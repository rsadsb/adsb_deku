import Adsb.Theorems.C14
/-! # C20 — the alloc-only build equals the std build (up to the time stamps only std has)

The decoder has no `cfg`-dependent semantics (the translator lists every `cfg(feature …)` item of the
sources and the check compares the list with the reviewed one: imports, `SystemTime` fields and `prune`
only). The tracker differs in exactly three places: `AirplaneState::last_time`, `AirplaneCoor::last_time`
and `prune`. The model carries the configuration as the flag `std`; the theorems show that nothing but
the time stamps depends on it: per step (`update_core` … `added_std_independent`) and, by induction over histories,
for whole runs (`run_erase`, `builds_agree`, `records_agree`). -/

namespace Adsb.C20
open Adsb.C12 Adsb.C13 Adsb.C14
variable {P D : Type}

/-- a coordinate record without its time stamp -/
def core (c : Coor P D) : Option Alt × Option Alt × Option P × Option D := (c.even, c.odd, c.pos, c.kd)

/-- **the position decision does not depend on the build configuration or the clock**: it is a function of the
stored reports, the published position and the geometry alone -/
theorem update_core (g : Geo P D) (std : Bool) (now : Nat) (c : Coor P D) :
    (Coor.update g std now c).map core =
      match c.even, c.odd with
      | some e, some o => (match g.getPos e o with
          | none => none
          | some p => if plausible g c.pos p then some (c.even, c.odd, some p, some (g.rxDist p)) else none)
      | _, _ => some (core c) := by
  rw [map_update]
  cases c.even <;> cases c.odd <;> try rfl
  rename_i e o
  dsimp only
  cases g.getPos e o <;> rfl

theorem update_std_independent (g : Geo P D) (now now' : Nat) (c c' : Coor P D) (h : core c = core c') :
    (Coor.update g true now c).map core = (Coor.update g false now' c').map core := by
  rw [update_core, update_core]
  obtain ⟨e, o, p, _, k⟩ := c
  obtain ⟨e', o', p', _, k'⟩ := c'
  cases h
  rfl

/-- the "unchanged coordinates" test ignores the time stamps (the repaired comparison) -/
theorem same_ignores_time (g : Geo P D) (a b a' b' : Coor P D) (ha : core a = core a') (hb : core b = core b') :
    Coor.same g a b = Coor.same g a' b' := by
  simp only [core, Prod.mk.injEq] at ha hb
  obtain ⟨a1, a2, a3, a4⟩ := ha
  obtain ⟨b1, b2, b3, b4⟩ := hb
  unfold Coor.same
  rw [a1, a2, a3, a4, b1, b2, b3, b4]

/-- callsign, velocity and message count of a step do not depend on the configuration or the clock -/
theorem attributes_std_independent (g : Geo P D) (now now' : Nat) (st : Plane P D) (me : ME) :
    (stepPlane g true now st me).callsign = (stepPlane g false now' st me).callsign ∧
    (stepPlane g true now st me).vel = (stepPlane g false now' st me).vel := by
  rw [callsign_latest, callsign_latest, velocity_latest, velocity_latest]
  exact ⟨rfl, rfl⟩

/-- 'added' does not depend on the configuration or the clock -/
theorem added_std_independent (g : Geo P D) (now now' : Nat) (s : Airplanes P D) (df : DF) :
    (action g true now s df).2 = (action g false now' s df).2 := by
  rw [action_snd, action_snd]

/-- forget what only the std build has: the time stamps -/
def eraseC (c : Coor P D) : Coor P D := { c with lastTime := none }
def eraseP (p : Plane P D) : Plane P D :=
  { p with coords := eraseC p.coords, lastTime := 0, track := p.track.map (fun t => t.map eraseC) }
def eraseS (s : Airplanes P D) : Airplanes P D := s.map (fun kv => (kv.1, eraseP kv.2))

theorem get_eraseS (s : Airplanes P D) (k : Nat) : (eraseS s).get k = (s.get k).map eraseP := by
  induction s with
  | nil => rfl
  | cons kv rest ih =>
    unfold eraseS at ih ⊢
    simp only [List.map_cons, Airplanes.get, apply_ite (Option.map _), ih, Option.map_some]

theorem put_eraseS (s : Airplanes P D) (k : Nat) (v : Plane P D) : eraseS (s.put k v) = (eraseS s).put k (eraseP v) := by
  induction s with
  | nil => rfl
  | cons kv rest ih =>
    unfold eraseS at ih ⊢
    simp only [List.map_cons, Airplanes.put, apply_ite (List.map _), ih]

theorem same_erase (g : Geo P D) (a b : Coor P D) : Coor.same g (eraseC a) (eraseC b) = Coor.same g a b := rfl

theorem eraseC_idem (c : Coor P D) : eraseC (eraseC c) = eraseC c := rfl

/-! Erasure is a homomorphism from either build, with any clock, onto the alloc-only build run with the clock at 0: `eraseC`, `eraseP`,
`eraseS` commute with `Coor.update`, `updatePosition`, `stepPlane`, `action`, `run`. Everything below follows from that. -/

theorem update_eraseC (g : Geo P D) (std : Bool) (now now' : Nat) (c : Coor P D) :
    Coor.update g false now' (eraseC c) = (Coor.update g std now c).map eraseC := by
  rw [update_eq, map_update]; rfl

theorem store_eraseC (c : Coor P D) (a : Alt) : store (eraseC c) a = eraseC (store c a) := by
  unfold store; split <;> rfl

theorem updatePosition_eraseP (g : Geo P D) (std : Bool) (now now' : Nat) (st : Plane P D) (a : Alt) :
    eraseP (updatePosition g std now st a) = updatePosition g false now' (eraseP st) a := by
  rw [updatePosition_eq, updatePosition_eq, show (eraseP st).coords = eraseC st.coords from rfl, store_eraseC,
    update_eraseC g std now now']
  obtain ⟨c, cs, vel, n, lt, tr⟩ := st
  cases Coor.update g std now (store c a) with
  | none => cases tr <;> cases h : c.pos <;> simp [eraseP, eraseC, h]
  | some t =>
    dsimp only [Option.map_some]
    rw [same_erase]
    split
    · rfl
    · cases tr <;> simp [eraseP]

theorem stepPlane_eraseP (g : Geo P D) (std : Bool) (now now' : Nat) (st : Plane P D) (me : ME) :
    eraseP (stepPlane g std now st me) = stepPlane g false now' (eraseP st) me :=
  -- `eraseP (bump std now p)` is `bump false now' (eraseP p)` by definition
  congrArg (bump false now') (payload_cases (motive := fun f => eraseP (f std now st) = f false now' (eraseP st)) g me rfl (fun _ => rfl)
    (fun _ => rfl) (updatePosition_eraseP g std now now' st))

theorem action_eraseS (g : Geo P D) (std : Bool) (now : Nat) (s : Airplanes P D) (df : DF) :
    action g false 0 (eraseS s) df = (eraseS (action g std now s df).1, (action g std now s df).2) := by
  rw [action_eq, action_eq]
  cases frameKey df with
  | none => rfl
  | some km =>
    obtain ⟨k, me⟩ := km
    dsimp only
    rw [get_eraseS, put_eraseS, stepPlane_eraseP g std now 0]
    cases s.get k <;> rfl

theorem eraseS_idem (s : Airplanes P D) : eraseS (eraseS s) = eraseS s := by
  have hP : ∀ p : Plane P D, eraseP (eraseP p) = eraseP p := fun p => by
    obtain ⟨c, cs, vel, n, lt, tr⟩ := p; cases tr <;> simp [eraseP, eraseC]
  simp [eraseS, List.map_map, Function.comp_def, hP]

/-- **one step**: the alloc-only build's step on the erased state is the erasure of the std build's step; `Added` agrees -/
theorem action_erase (g : Geo P D) (std std' : Bool) (now now' : Nat) (s : Airplanes P D) (df : DF) :
    eraseS (action g std now s df).1 = eraseS (action g std' now' (eraseS s) df).1 ∧
    (action g std now s df).2 = (action g std' now' (eraseS s) df).2 := by
  have h1 := action_eraseS g std now s df
  have h2 := action_eraseS g std' now' (eraseS s) df
  rw [eraseS_idem] at h2
  exact Prod.mk.inj (h1.symm.trans h2)

/-- the `Added` answers of a history -/
def runAdded (g : Geo P D) (std : Bool) (s : Airplanes P D) : List (Nat × DF) → List Bool
  | [] => []
  | (now, df) :: rest => (action g std now s df).2 :: runAdded g std (action g std now s df).1 rest

theorem run_eraseS (g : Geo P D) (std : Bool) (h : List (Nat × DF)) (s : Airplanes P D) :
    eraseS (run g std s h) = run g false (eraseS s) ((h.map (·.2)).map ((0, ·))) ∧
    runAdded g std s h = runAdded g false (eraseS s) ((h.map (·.2)).map ((0, ·))) := by
  induction h generalizing s with
  | nil => exact ⟨rfl, rfl⟩
  | cons e rest ih =>
    obtain ⟨now, df⟩ := e
    simp only [List.map_cons, run, runAdded, action_eraseS g std now s df, ih]
    exact ⟨trivial, trivial⟩

/-- **whole histories**: feed the same frames to the std build (clock readings `h`) and to the alloc-only build (which
has no clock: any readings `h'`), from states that agree up to the time stamps: after every history the two states agree
up to the time stamps and every `Added` answer is the same -/
theorem run_erase (g : Geo P D) (std std' : Bool) : ∀ (h h' : List (Nat × DF)) (s s' : Airplanes P D),
    h.map (·.2) = h'.map (·.2) → eraseS s = eraseS s' →
    eraseS (run g std s h) = eraseS (run g std' s' h') ∧ runAdded g std s h = runAdded g std' s' h' := by
  intro h h' s s' hf hs
  obtain ⟨a1, a2⟩ := run_eraseS g std h s
  obtain ⟨b1, b2⟩ := run_eraseS g std' h' s'
  rw [hf, hs] at a1 a2
  exact ⟨a1.trans b1.symm, a2.trans b2.symm⟩

/-- what an observer without a clock can see of a state is untouched by the erasure -/
theorem views_erase (s : Airplanes P D) :
    (eraseS s).map (·.1) = s.map (·.1) ∧ allPosition (eraseS s) = allPosition s ∧ ∀ k, hasDetails (eraseS s) k = hasDetails s k := by
  refine ⟨by simp [eraseS, List.map_map, Function.comp_def], ?_, ?_⟩
  · simp only [allPosition, eraseS, List.filterMap_map]
    rfl
  · intro k
    simp only [hasDetails, get_eraseS]
    cases s.get k <;> rfl

/-- **C20, tracker half**: the std build and the alloc-only build, fed the same frames from the empty tracker, answer
`Added` identically and end in states with the same keys, the same published positions and the same details
availability (and, by `run_erase`, the same records up to the std-only time stamps) -/
theorem builds_agree (g : Geo P D) (h h' : List (Nat × DF)) (hf : h.map (·.2) = h'.map (·.2)) :
    runAdded g true [] h = runAdded g false [] h' ∧
    (run g true [] h).map (·.1) = (run g false [] h').map (·.1) ∧
    allPosition (run g true [] h) = allPosition (run g false [] h') ∧
    ∀ k, hasDetails (run g true [] h) k = hasDetails (run g false [] h') k := by
  obtain ⟨r1, r2⟩ := run_erase g true false h h' [] [] hf rfl
  obtain ⟨v1, v2, v3⟩ := views_erase (run g true [] h)
  obtain ⟨w1, w2, w3⟩ := views_erase (run g false [] h')
  refine ⟨r2, ?_, ?_, ?_⟩
  · rw [← v1, ← w1, r1]
  · rw [← v2, ← w2, r1]
  · intro k; rw [← v3 k, ← w3 k, r1]

/-- each record agrees up to the time stamps -/
theorem records_agree (g : Geo P D) (h h' : List (Nat × DF)) (hf : h.map (·.2) = h'.map (·.2)) (k : Nat) :
    ((run g true [] h).get k).map eraseP = ((run g false [] h').get k).map eraseP := by
  obtain ⟨r1, _⟩ := run_erase g true false h h' [] [] hf rfl
  rw [← get_eraseS, ← get_eraseS, r1]

/-- non-vacuity: erasure really forgets the clock (two states that differ only in time stamps are identified) -/
example : eraseP ({ lastTime := 5 } : Plane Nat Nat) = eraseP ({ lastTime := 9 } : Plane Nat Nat) := rfl

end Adsb.C20
