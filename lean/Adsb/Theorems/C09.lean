import Adsb.Lemmas.Reject
import Adsb.Lemmas.ModeAC
import Adsb.Spec.Fields
import Adsb.Lemmas.Codes
/-! # C09 — identity (squawk) codes decode to the right four octal digits in every carrier -/

namespace Adsb.C09
open Adsb.Spec

/-- the table-driven reader of DF21 and type 28 and DF5's bit-by-bit reader both equal the specification, on every argument: all three
are functions of the twelve pulse bits (`bitSet_eq`, `shr_and_one`, `pulses_eq`), and the bit permutation is checked on the 4096
values of those -/
theorem id13_spec (c : Nat) : decodeId13 c = Spec.squawk c ∧ identityCode c = Spec.squawk c := by
  simp only [decodeId13, bitSet_eq c 12 _ rfl, bitSet_eq c 11 _ rfl, bitSet_eq c 10 _ rfl, bitSet_eq c 9 _ rfl, bitSet_eq c 8 _ rfl,
    bitSet_eq c 7 _ rfl, bitSet_eq c 5 _ rfl, bitSet_eq c 4 _ rfl, bitSet_eq c 3 _ rfl, bitSet_eq c 2 _ rfl, bitSet_eq c 1 _ rfl,
    bitSet_eq c 0 _ rfl, identityCode, shr_and_one, squawk, pulses_eq, ofBits, List.foldl]
  generalize c.testBit 12 = c1; generalize c.testBit 11 = a1; generalize c.testBit 10 = c2; generalize c.testBit 9 = a2
  generalize c.testBit 8 = c4; generalize c.testBit 7 = a4; generalize c.testBit 5 = b1; generalize c.testBit 4 = d1
  generalize c.testBit 3 = b2; generalize c.testBit 2 = d2; generalize c.testBit 1 = b4; generalize c.testBit 0 = d4
  revert c1 a1 c2 a2 c4 a4 b1 d1 b2 d2 b4 d4
  decide +kernel

theorem decodeId13_spec (c : Nat) : decodeId13 c = Spec.squawk c := (id13_spec c).1

theorem identityCode_spec (c : Nat) : identityCode c = Spec.squawk c := (id13_spec c).2

/-- three bits make an octal digit -/
theorem ofBits3_le (a b c : Bool) : Spec.ofBits [a, b, c] ≤ 7 := by
  cases a <;> cases b <;> cases c <;> decide

/-- every digit of `Spec.squawk c` is an octal digit, whatever `c` -/
theorem squawk_octal (c : Nat) :
    Spec.squawk c / 4096 % 16 ≤ 7 ∧ Spec.squawk c / 256 % 16 ≤ 7 ∧ Spec.squawk c / 16 % 16 ≤ 7 ∧ Spec.squawk c % 16 ≤ 7 ∧ Spec.squawk c < 65536 := by
  have ha := ofBits3_le (pulses c).a4 (pulses c).a2 (pulses c).a1
  have hb := ofBits3_le (pulses c).b4 (pulses c).b2 (pulses c).b1
  have hc := ofBits3_le (pulses c).c4 (pulses c).c2 (pulses c).c1
  have hd := ofBits3_le (pulses c).d4 (pulses c).d2 (pulses c).q
  simp only [Spec.squawk]
  omega

theorem digits_octal (c : Nat) (h : c < 8192) :
    Spec.squawk c / 4096 % 16 ≤ 7 ∧ Spec.squawk c / 256 % 16 ≤ 7 ∧ Spec.squawk c / 16 % 16 ≤ 7 ∧ Spec.squawk c % 16 ≤ 7 ∧ Spec.squawk c < 65536 :=
  squawk_octal c

/-- the two decoding routines agree on every code: the carriers cannot disagree -/
theorem carriers_agree (c : Nat) (h : c < 8192) : identityCode c = decodeId13 c := by
  rw [identityCode_spec c, decodeId13_spec c]

/-- **DF5, DF21, type 28**: the squawk is `Spec.squawk` of the standard's 13-bit field -/
theorem squawk_carried (B : Buf) (f : Frame) (h : decode B = .ok f) :
    (DFcode.of B = 5 → ∃ fs dr um ap, f.df = .survId fs dr um (Spec.squawk (ID.of B)) ap) ∧
    (DFcode.of B = 21 → ∃ fs dr um bds ap, f.df = .commBId fs dr um (Spec.squawk (ID.of B)) bds ap) ∧
    (TC.ofME B = 28 →
      (DFcode.of B = 17 → ∃ ca icao pi st, f.df = .adsb ca icao (.status ⟨st, EMERG.ofME B, Spec.squawk (ID28.ofME B)⟩) pi ∧
          st = (if ST28.ofME B ≤ 2 then ST28.ofME B else 3)) ∧
      (DFcode.of B = 18 → ∃ cf aa pi st, f.df = .tisb cf aa (.status ⟨st, EMERG.ofME B, Spec.squawk (ID28.ofME B)⟩) pi ∧
          st = (if ST28.ofME B ≤ 2 then ST28.ofME B else 3))) := by
  obtain ⟨L, _, _, rfl⟩ := decoded B f h
  refine ⟨?_, ?_, ?_⟩
  · intro c
    exact ⟨_, _, _, _, by rw [dfAt_5 B c, identityCode_spec]; rfl⟩
  · intro c
    exact ⟨_, _, _, _, _, by rw [dfAt_21 B c, decodeId13_spec]; rfl⟩
  · intro t; have t' : bitsAt B 32 5 = 28 := t
    have hme : meAt B = .status ⟨if ST28.ofME B ≤ 2 then ST28.ofME B else 3, EMERG.ofME B, Spec.squawk (ID28.ofME B)⟩ := by
      rw [show meAt B = .status (statusAt B) by simp [meAt, t']]
      unfold statusAt
      rw [decodeId13_spec]
      rfl
    exact ⟨fun c => ⟨_, _, _, _, by rw [dfAt_17 B c, hme], rfl⟩, fun c => ⟨_, _, _, _, by rw [dfAt_18 B c, hme], rfl⟩⟩

/-! ## non-vacuity (tests) -/
example : Spec.squawk 0b1010101010101 = 0x0077 := by decide +kernel
example : Spec.squawk 0x1fff = 0x7777 := by decide +kernel
example : decodeId13 0x0040 = 0 := by decide +kernel    -- the X bit is not part of the code

end Adsb.C09
