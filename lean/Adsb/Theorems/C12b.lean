import Adsb.Theorems.C15
/-! # C12 / C15 — accounting over whole histories with expiry: refinement to a two-field abstract record

The abstract state of one address is `Option (count, lastHeard)`. A frame of that address (DF17 / DF18) creates the
record with count 1 or adds one and stamps the time; every other frame does nothing; expiry with threshold `T` at clock
reading `now` removes the record iff it was last heard `T` or more seconds ago. `account_refines` shows that the
tracker (std build), projected to any single address, *is* this machine — for every history of frames and expiries.
"Count = frames since (re)added", "added iff absent", "shrinks only through expiry", isolation and the expiry rule are
corollaries. -/

namespace Adsb.C12b
open Adsb.C12 Adsb.C15
variable {P D : Type}

inductive Op where
  | act (now : Nat) (df : DF)
  | prune (T now : Nat)

def runOps (g : Geo P D) (s : Airplanes P D) : List Op → Airplanes P D
  | [] => s
  | .act now df :: rest => runOps g (action g true now s df).1 rest
  | .prune T now :: rest => runOps g (prune T now s) rest

/-- what the accounting sees of a record: message count and time last heard -/
def absRec (p : Plane P D) : Nat × Nat := (p.numMessages, p.lastTime)

/-- the abstract machine of one address -/
def specStep (a : Nat) (r : Option (Nat × Nat)) : Op → Option (Nat × Nat)
  | .act now df => if concerns a df then some ((match r with | some (c, _) => c | none => 0) + 1, now) else r
  | .prune T now => match r with
    | some (c, lh) => if now - lh < 1000 * T ∧ lh ≤ now then some (c, lh) else none
    | none => none

/-- a frame, as the accounting of address `a` sees it -/
theorem account_act (g : Geo P D) (a now : Nat) (s : Airplanes P D) (df : DF) :
    ((action g true now s df).1.get a).map absRec = specStep a ((s.get a).map absRec) (.act now df) := by
  simp only [specStep]
  by_cases hc : concerns a df = true
  · obtain ⟨me, hk⟩ := (concerns_iff a df).mp hc
    rw [if_pos hc, get_action_own g true now s hk]
    simp only [Option.map_some, absRec, stepPlane_numMessages, last_time_refreshed]
    cases s.get a <;> rfl
  · rw [if_neg hc, isolation_step g true now s df a hc]

/-- an expiry, as the accounting of address `a` sees it -/
theorem account_prune (a T now : Nat) (s : Airplanes P D) (hs : Sorted s) :
    ((prune T now s).get a).map absRec = specStep a ((s.get a).map absRec) (.prune T now) := by
  rw [prune_exact T now s hs a]
  cases s.get a with
  | none => rfl
  | some p =>
    simp only [specStep, Option.map_some, absRec, alive, Bool.and_eq_true, decide_eq_true_eq]
    split <;> rfl

/-- **refinement**: for every history of frames and expiries, the tracker projected to one address is the abstract
accounting machine of that address -/
theorem account_refines (g : Geo P D) (a : Nat) (ops : List Op) : ∀ (s : Airplanes P D), Sorted s →
    ((runOps g s ops).get a).map absRec = ops.foldl (specStep a) ((s.get a).map absRec) ∧ Sorted (runOps g s ops) := by
  induction ops with
  | nil => intro s hs; exact ⟨rfl, hs⟩
  | cons op rest ih =>
    intro s hs
    rw [List.foldl_cons]
    cases op with
    | act now df => rw [← account_act g]; exact ih _ (sorted_action g true now s df hs)
    | prune T now => rw [← account_prune a T now s hs]; exact ih _ (sorted_prune T now s hs)

/-- number of frames of address `a` in a list of operations -/
def framesOf (a : Nat) : List Op → Nat
  | [] => 0
  | .act _ df :: rest => (if concerns a df then 1 else 0) + framesOf a rest
  | .prune _ _ :: rest => framesOf a rest

def noPrune : List Op → Bool
  | [] => true
  | .act _ _ :: rest => noPrune rest
  | .prune _ _ :: _ => false

theorem fold_count (a : Nat) (ops : List Op) (h : noPrune ops = true) : ∀ r : Option (Nat × Nat),
    ((ops.foldl (specStep a) r).map (·.1)).getD 0 = (r.map (·.1)).getD 0 + framesOf a ops := by
  induction ops with
  | nil => exact fun r => rfl
  | cons op rest ih =>
    cases op with
    | prune T now => cases h
    | act now df =>
      intro r
      rw [List.foldl_cons, ih h, framesOf, ← Nat.add_assoc]
      congr 1
      simp only [specStep]
      split
      · cases r <;> rfl
      · rfl

theorem runOps_append (g : Geo P D) (l1 l2 : List Op) (s : Airplanes P D) : runOps g s (l1 ++ l2) = runOps g (runOps g s l1) l2 := by
  induction l1 generalizing s with
  | nil => rfl
  | cons op rest ih => cases op <;> exact ih _

theorem count_frames (g : Geo P D) (a : Nat) (ops : List Op) (h : noPrune ops = true) (s : Airplanes P D) (hs : Sorted s) :
    (((runOps g s ops).get a).map (·.numMessages)).getD 0 = ((s.get a).map (·.numMessages)).getD 0 + framesOf a ops := by
  have := fold_count a ops h ((s.get a).map absRec)
  rwa [← (account_refines g a ops s hs).1, Option.map_map, Option.map_map] at this

/-- **message count = number of DF17/DF18 frames from the address since it was added** (no expiry in between), starting
from the empty tracker; in particular traffic from other addresses and frames of other formats do not count -/
theorem count_eq_frames (g : Geo P D) (a : Nat) (ops : List Op) (h : noPrune ops = true) :
    (((runOps g [] ops).get a).map (·.numMessages)).getD 0 = framesOf a ops := by
  rw [count_frames g a ops h [] trivial]; exact Nat.zero_add _

/-- **after an expiry that removes the address, the count restarts**: the count after `pre ++ [prune] ++ post` (the address
absent right after the expiry) is the number of its frames in `post` alone -/
theorem count_restarts (g : Geo P D) (a : Nat) (pre post : List Op) (T now : Nat) (hpost : noPrune post = true)
    (hgone : (runOps g [] (pre ++ [.prune T now])).get a = none) :
    (((runOps g [] (pre ++ [.prune T now] ++ post)).get a).map (·.numMessages)).getD 0 = framesOf a post := by
  rw [runOps_append, count_frames g a post hpost _ (account_refines g a _ [] trivial).2, hgone]; exact Nat.zero_add _

/-! ## non-vacuity (tests): a history with a frame, an expiry that removes it, and a frame again -/
example : [Op.act 0 (.adsb ⟨5, 0⟩ 0xABCDEF (.noPosition 0) 0), Op.prune 1 5000, Op.act 6000 (.adsb ⟨5, 0⟩ 0xABCDEF (.noPosition 0) 0)].foldl
    (specStep 0xABCDEF) none = some (1, 6000) := by decide

end Adsb.C12b
