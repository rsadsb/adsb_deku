import Adsb.Gen.CrcFn
import Adsb.Theorems.C03
/-! # C03 (part 2) — `modes_checksum` *as translated from the source on this run* is the model's checksum, hence the Mode S syndrome

`Gen.modesChecksumSrc` is produced by `tools/rust2lean.py` from the text of `crc.rs` every time a check runs: the length guard, the
`for` loop over the first `n − 3` bytes (`rem = (rem << 8) ^ CRC_TABLE[(message[i] ^ ((rem & 0xff0000) >> 16)) as usize]; rem &= 0xffffff`
in `u32` arithmetic with every shift, index and subtraction check written out) and the XOR with the last three bytes. The theorems
below prove, for **every** byte string and every `bits`, that it never panics and returns exactly what the hand-written `BitVec 24` model
`modesChecksum` returns — so the syndrome theorems of `Theorems/C03` (`crc_is_syndrome` and its corollaries) hold of the function as it is
written in the repository today. The proof is tailored to the shape the translator emits; a rewrite of the Rust function breaks it (or leaves
the translated fragment), which the check reports as a broken obligation of C03. -/

namespace Adsb.C03b
open Adsb.MiniRust

theorem ble_false {a b : Nat} (h : b < a) : Nat.ble a b = false := by
  rw [Bool.eq_false_iff, ne_eq, Nat.ble_eq]; omega

theorem blt_false {a b : Nat} (h : b ≤ a) : Nat.blt a b = false := by
  rw [Bool.eq_false_iff, ne_eq, Nat.blt_eq]; omega

/-- index loop = iterator loop: a loop over `0 … k-1` whose body at `i` does to the image `φ s` of a model state what `g` does
with the `i`-th element computes the image of the iterator fold over the first `k` elements -/
theorem foldl_range_sim {α σ τ : Type} (body : τ → Nat → τ) (g : σ → α → σ) (φ : σ → τ) (l : List α)
    (h : ∀ s i (hi : i < l.length), body (φ s) i = φ (g s l[i])) (a : σ) :
    ∀ k, k ≤ l.length → (List.range k).foldl body (φ a) = φ ((l.take k).foldl g a) := by
  intro k
  induction k with
  | zero => intro _; rfl
  | succ k ih =>
    intro hk
    rw [List.range_succ, List.foldl_append, ih (by omega), List.take_add_one, List.getElem?_eq_getElem (by omega : k < l.length),
      List.foldl_append]
    exact h _ k _

theorem getD_map {α β : Type} (f : α → β) (l : List α) (d : α) (i : Nat) : (l.map f).getD i (f d) = f (l.getD i d) := by
  rw [List.getD_eq_getElem?_getD, List.getD_eq_getElem?_getD, List.getElem?_map, Option.getD_map]

/-- the slice as the translated function sees it -/
def bytesNat (msg : List UInt8) : List Nat := msg.map (·.toNat)

theorem getD_bytesNat (msg : List UInt8) (i : Nat) : (bytesNat msg).getD i 0 = (msg.getD i 0).toNat :=
  getD_map _ msg 0 i

theorem length_bytesNat (msg : List UInt8) : (bytesNat msg).length = msg.length := List.length_map _

theorem shr16_lt {r : Nat} (hr : r < 16777216) : r >>> 16 < 2 ^ 8 := by
  rw [Nat.shiftRight_eq_div_pow]; omega

/-- the table index: the mask and the `usize` wrap do nothing, and it is in range -/
theorem idx_eq (r : Nat) (hr : r < 16777216) (b : UInt8) :
    (b.toNat ^^^ ((r &&& 16711680) >>> 16)) % 18446744073709551616 = b.toNat ^^^ (r >>> 16) ∧ b.toNat ^^^ (r >>> 16) < 256 := by
  have hx := Nat.xor_lt_two_pow b.toNat_lt (shr16_lt hr)
  have e : (r &&& 16711680) >>> 16 = r >>> 16 := by
    rw [Nat.shiftRight_and_distrib, show (16711680 : Nat) >>> 16 = 2 ^ 8 - 1 by decide, Nat.and_two_pow_sub_one_eq_mod,
      Nat.mod_eq_of_lt (shr16_lt hr)]
  rw [e, Nat.mod_eq_of_lt (by omega)]
  exact ⟨rfl, hx⟩

/-- the loop body in `u32` arithmetic = one `crcStep` of the `BitVec 24` model -/
theorem step_bridge (r : Nat) (hr : r < 16777216) (b : UInt8) :
    (((r <<< 8) % 4294967296) ^^^ (Gen.crcTable.getD ((b.toNat ^^^ ((r &&& 16711680) >>> 16)) % 18446744073709551616) 0)) &&& 16777215
      = (crcStep (BitVec.ofNat 24 r) b).toNat := by
  rw [(idx_eq r hr b).1, show (16777215 : Nat) = 2 ^ 24 - 1 by decide, Nat.and_two_pow_sub_one_eq_mod, Nat.xor_mod_two_pow,
    Nat.mod_mod_of_dvd _ (by decide : 2 ^ 24 ∣ 4294967296)]
  simp (disch := omega) only [crcStep, tableBV, BitVec.toNat_xor, BitVec.toNat_shiftLeft, BitVec.toNat_ofNat, BitVec.toNat_setWidth,
    BitVec.toNat_ushiftRight, UInt8.toNat_toBitVec, Nat.mod_eq_of_lt]

theorem idx_lt (r : Nat) (hr : r < 16777216) (b : UInt8) :
    (b.toNat ^^^ ((r &&& 16711680) >>> 16)) % 18446744073709551616 < 256 := by
  rw [(idx_eq r hr b).1]; exact (idx_eq r hr b).2

/-- the translated loop body, as a function on the fold state (`j` is the table index, which the translation writes out twice);
reducible, so that `loop_inv` rewrites the loop inside `Gen.modesChecksumSrc` -/
abbrev loopBody (message : List Nat) (st : Nat × Bool) (i : Nat) : Nat × Bool :=
  let j := (message.getD i 0 ^^^ ((st.1 &&& 16711680) >>> 16)) % 18446744073709551616
  ((((st.1 <<< 8) % 4294967296) ^^^ Gen.crcTable.getD j 0) &&& 16777215,
    st.2 || Nat.ble 32 8 || Nat.ble message.length i || Nat.ble 32 16 || Nat.ble 256 j)

theorem loopBody_sim (msg : List UInt8) (bad : Bool) (r : W) (i : Nat) (hi : i < msg.length) :
    loopBody (bytesNat msg) (r.toNat, bad) i = ((crcStep r msg[i]).toNat, bad) := by
  have hx := idx_lt r.toNat r.isLt (msg.getD i 0)
  have hb := step_bridge r.toNat r.isLt (msg.getD i 0)
  rw [BitVec.ofNat_toNat, BitVec.setWidth_eq] at hb
  simp (disch := omega) only [loopBody, length_bytesNat, getD_bytesNat, List.getElem_eq_getD (0 : UInt8), hb, ble_false, Bool.or_false]

/-- after `k ≤ length` iterations the loop holds the model's remainder of the first `k` bytes, and the overflow flag is as it was -/
theorem loop_inv (msg : List UInt8) (bad : Bool) (k : Nat) (hk : k ≤ msg.length) :
    (List.range k).foldl (loopBody (bytesNat msg)) (0, bad) = ((crcRem (msg.take k)).toNat, bad) :=
  foldl_range_sim _ crcStep (fun r : W => (r.toNat, bad)) msg (loopBody_sim msg bad) 0 k hk

/-- the translated function's result type against the model's -/
def resOf : Res Nat → Res Val
  | .ok v => .ok (.num v)
  | .err _ => .ok .err
  | .panic p => .panic p

theorem tail_bridge (r : BitVec 24) (a b c : UInt8) :
    r.toNat ^^^ ((((a.toNat <<< 16) % 4294967296) ^^^ ((b.toNat <<< 8) % 4294967296)) ^^^ c.toNat)
      = (r ^^^ ((a.toBitVec.setWidth 24 <<< 16) ^^^ (b.toBitVec.setWidth 24 <<< 8) ^^^ c.toBitVec.setWidth 24)).toNat := by
  have ha := a.toNat_lt
  have hb := b.toNat_lt
  have hc := c.toNat_lt
  simp (disch := omega) only [BitVec.toNat_xor, BitVec.toNat_shiftLeft, BitVec.toNat_setWidth, UInt8.toNat_toBitVec, Nat.shiftLeft_eq,
    Nat.mod_eq_of_lt]

/-- **`modes_checksum` as written in `crc.rs` today = the model's checksum, for every byte string and every bit count; it never panics** -/
theorem src_modes_checksum (msg : List UInt8) (bits : Nat) :
    Gen.modesChecksumSrc (bytesNat msg) bits = resOf (modesChecksum msg bits) := by
  unfold Gen.modesChecksumSrc modesChecksum
  by_cases hg : bits / 8 < 3 ∨ msg.length < bits / 8
  · simp [resOf, Nat.blt_eq, length_bytesNat, hg]
  · dsimp only
    rw [loop_inv msg _ (bits / 8 - 3) (by omega)]
    simp (disch := omega) only [length_bytesNat, blt_false, ble_false, if_neg hg, getD_bytesNat, tail_bridge, resOf, crcVal, tail24,
      Bool.or_false, Bool.false_eq_true, if_false, Nat.reduceBEq]

/-- **C03 on the source text**: for a window of `bits/8 ≥ 3` bytes that the buffer holds, the function as written in the repository today
returns the remainder of those bytes, as a polynomial over GF(2), modulo the Mode S generator 0x1FFF409 (bit-serial long division,
`Spec/Poly.lean`) — the property's "checksum = parity syndrome", now about the translated source rather than the hand model -/
theorem src_checksum_is_syndrome (msg : List UInt8) (bits : Nat) (h3 : 3 ≤ bits / 8) (hn : bits / 8 ≤ msg.length) :
    Gen.modesChecksumSrc (bytesNat msg) bits = .ok (.num (Spec.syndrome (bitsOf (msg.take (bits / 8)))).toNat) := by
  rw [src_modes_checksum, modesChecksum, if_neg (by omega), resOf, C03.crc_is_syndrome msg (bits / 8) h3 hn]

/-- **the length guard on the source text**: fewer than `bits/8` bytes (or a window below three bytes) is an error, never a checksum -/
theorem src_checksum_refuses_short (msg : List UInt8) (bits : Nat) (h : bits / 8 < 3 ∨ msg.length < bits / 8) :
    Gen.modesChecksumSrc (bytesNat msg) bits = .ok .err := by
  rw [src_modes_checksum, modesChecksum, if_pos h, resOf]

/-- the README's frame through the translated function: a valid squitter has syndrome 0 -/
example : Gen.modesChecksumSrc [0x8d, 0xa2, 0xc1, 0xbd, 0x58, 0x7b, 0xa2, 0xad, 0xb3, 0x17, 0x99, 0xcb, 0x80, 0x2b] 112 = .ok (.num 0) := by
  rfl

end Adsb.C03b
