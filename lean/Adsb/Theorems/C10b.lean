import Adsb.Gen.Layout
import Adsb.Spec.Fields
/-! # C10 / C04 / C07 / C08 / C09 (part 2) — the declared field layout, as regenerated from the `#[deku(..)]` attributes on this run,
puts every field at the bit position Annex 10 / DO-260B assigns it

`Gen.layout_<Struct>` is computed by `tools/extract.py` from the attributes in the source (explicit widths, the id widths of the enum-typed
fields, nested structs, pads, the widths the custom readers read — taken from the translated reader functions). `Spec.*` are the
standard's positions (`Spec/Fields.lean`). A struct starts `base` bits into the 56-bit ME / MB field (or the frame): 0 when the variant
re-reads its 5-bit type code as its first field, 5 after the type code, 8 after type code + sub-type or after the BDS code, 13 for the
sub-structure of the velocity report and for the utility message in the frame. Reserved bits are written as literal positions.
These theorems are re-checked against what the attributes say now; the decoder model's own field theorems (`Theorems/C10`, `C04`, `C07`)
are about the hand-written model, which the text tie and the field-exhaustive correspondence hold to the same attributes. -/

namespace Adsb.C10b

/-- position of a standard field relative to a struct that starts `base` bits into the ME / MB field -/
def pos (base : Nat) (f : Spec.Field) : Nat × Nat := (f.first - 1 - base, f.width)

/-- airborne position (types 9–18, 20–22): TC, SS, SAF/IMF, AC12, T, F, LAT, LON; exactly 56 bits -/
theorem airborne_position_layout :
    Gen.layout_Altitude = [pos 0 Spec.TC, pos 0 Spec.SS, pos 0 Spec.SAF, pos 0 Spec.ALT, pos 0 Spec.T, pos 0 Spec.F, pos 0 Spec.LAT, pos 0 Spec.LON]
    ∧ Gen.width_Altitude = 56 := by decide

/-- surface position (types 5–8), after the type code: MOV, S, TRK, T, F, LAT, LON; 5 + 51 = 56 bits -/
theorem surface_position_layout :
    Gen.layout_SurfacePosition = [pos 5 Spec.MOV, pos 5 Spec.TRKS, pos 5 Spec.TRK, pos 5 Spec.T, pos 5 Spec.F, pos 5 Spec.LAT, pos 5 Spec.LON]
    ∧ 5 + Gen.width_SurfacePosition = 56 := by decide

/-- identification (types 1–4): TC, category, eight 6-bit characters from ME bit 9; exactly 56 bits -/
theorem identification_layout :
    Gen.layout_Identification = [pos 0 Spec.TC, pos 0 Spec.CAT, ((Spec.CHAR 0).first - 1, 8 * (Spec.CHAR 0).width)]
    ∧ Gen.width_Identification = 56 := by decide

/-- velocity sub-structures (ME bits 14–35): direction / 10-bit component twice; heading status / heading / airspeed type / airspeed -/
theorem velocity_sub_layout :
    Gen.layout_GroundSpeedDecoding = [pos 13 Spec.DEW, pos 13 Spec.VEW, pos 13 Spec.DNS, pos 13 Spec.VNS]
    ∧ Gen.layout_AirspeedDecoding = [pos 13 Spec.HDGST, pos 13 Spec.HDG, pos 13 Spec.ASTYPE, pos 13 Spec.AS]
    ∧ Gen.width_GroundSpeedDecoding = 22 ∧ Gen.width_AirspeedDecoding = 22 := by decide

/-- emergency / priority status (type 28), after the type code: sub-type, emergency state, identity code; 5 + 51 = 56 bits -/
theorem status_layout :
    Gen.layout_AircraftStatus = [pos 5 Spec.ST28, pos 5 Spec.EMERG, pos 5 Spec.ID28] ∧ 5 + Gen.width_AircraftStatus = 56 := by decide

/-- target state and status (type 29), after the type code; ME bit 8 (SIL supplement) is skipped, bit 9 is the altitude type -/
theorem target_state_layout :
    Gen.layout_TargetStateAndStatusInformation =
      [pos 5 Spec.TSS_ST, pos 5 Spec.TSS_ALTTYPE, pos 5 Spec.TSS_ALT, pos 5 Spec.TSS_QNH, pos 5 Spec.TSS_HDGST, pos 5 Spec.TSS_HDG, pos 5 Spec.TSS_NACP,
       pos 5 Spec.TSS_NICBARO, pos 5 Spec.TSS_SIL, pos 5 Spec.TSS_MODE, pos 5 Spec.TSS_AP, pos 5 Spec.TSS_VNAV, pos 5 Spec.TSS_ALTHOLD, pos 5 Spec.TSS_IMF,
       pos 5 Spec.TSS_APP, pos 5 Spec.TSS_TCAS, pos 5 Spec.TSS_LNAV]
    ∧ 5 + Gen.width_TargetStateAndStatusInformation = 56 := by decide

/-- airborne operational status (type 31 / 0), after type code and sub-type: capability classes (reserved 9–10, 13–14), operational mode
(reserved 25–26), version, NIC-A, NACp, GVA, SIL, NICbaro, HRD, SIL supplement; 8 + 48 = 56 bits -/
theorem operational_status_airborne_layout :
    Gen.layout_OperationStatusAirborne =
      [(0, 2), pos 8 Spec.OS_ACAS, pos 8 Spec.OS_CDTI, (4, 2), pos 8 Spec.OS_ARV, pos 8 Spec.OS_TS, pos 8 Spec.OS_TC,
       (16, 2), pos 8 Spec.OS_RA, pos 8 Spec.OS_IDENT, pos 8 Spec.OS_ATC, pos 8 Spec.OS_SAF, pos 8 Spec.OS_SDA,
       pos 8 Spec.OS_VER, pos 8 Spec.OS_NICA, pos 8 Spec.OS_NACP, pos 8 Spec.OS_GVA, pos 8 Spec.OS_SIL, pos 8 Spec.OS_NICBARO, pos 8 Spec.OS_HRD, pos 8 Spec.OS_SILSUPP]
    ∧ 8 + Gen.width_OperationStatusAirborne = 56 := by decide

/-- surface operational status (type 31 / 1) -/
theorem operational_status_surface_layout :
    Gen.layout_OperationStatusSurface =
      [(0, 2), pos 8 Spec.OS_POA, pos 8 Spec.OS_ESIN, pos 8 Spec.OS_B2LOW, pos 8 Spec.OS_UATIN, pos 8 Spec.OS_NACV, pos 8 Spec.OS_NICC, pos 8 Spec.OS_LW,
       (16, 2), pos 8 Spec.OS_RA, pos 8 Spec.OS_IDENT, pos 8 Spec.OS_ATC, pos 8 Spec.OS_SAF, pos 8 Spec.OS_SDA, pos 8 Spec.OS_ANT,
       pos 8 Spec.OS_VER, pos 8 Spec.OS_NICA, pos 8 Spec.OS_NACP, pos 8 Spec.OS_SIL, pos 8 Spec.OS_NICBARO, pos 8 Spec.OS_HRD, pos 8 Spec.OS_SILSUPP]
    ∧ 8 + Gen.width_OperationStatusSurface = 56 := by decide

/-- BDS 1,0 data-link capability report, after the 8-bit BDS code; 8 + 48 = 56 bits -/
theorem datalink_capability_layout :
    Gen.layout_DataLinkCapability =
      [pos 8 Spec.DL_CONT, pos 8 Spec.DL_OVERLAY, pos 8 Spec.DL_ACAS, pos 8 Spec.DL_SUBNET, pos 8 Spec.DL_ENH, pos 8 Spec.DL_SPEC, pos 8 Spec.DL_UELM,
       pos 8 Spec.DL_DELM, pos 8 Spec.DL_IDCAP, pos 8 Spec.DL_SQCAP, pos 8 Spec.DL_SIC, pos 8 Spec.DL_GICB, pos 8 Spec.DL_ACASBITS, pos 8 Spec.DL_DTE]
    ∧ 8 + Gen.width_DataLinkCapability = 56 := by decide

/-- frame header pieces: the utility message (IIS, IDS at frame bits 14–19), the 13-bit altitude / identity fields, the 24-bit address -/
theorem header_pieces_layout :
    Gen.layout_UtilityMessage = [pos 13 Spec.IIS, pos 13 Spec.IDS]
    ∧ Gen.width_AC13Field = Spec.AC.width ∧ Gen.width_IdentityCode = Spec.ID.width ∧ Gen.width_ICAO = Spec.AA.width := by decide

end Adsb.C10b
