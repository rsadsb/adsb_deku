import Adsb.Theorems.C12
/-! # C13 — the tracker publishes only plausible CPR positions and clears stale pairs -/

namespace Adsb.C13
open Adsb.C12
variable {P D : Type}

/-- the slots after storing report `a`: the report replaces the slot of its own parity -/
def store (c : Coor P D) (a : Alt) : Coor P D := if a.f = 0 then { c with even := some a } else { c with odd := some a }

/-- the plausibility test of a candidate position `p` against the published one -/
def plausible (g : Geo P D) (cur : Option P) (p : P) : Bool :=
  !g.outOfRange (g.rxDist p) && (match cur with | some c => !g.jump (g.dist c p) | none => true)

theorem updatePosition_eq (g : Geo P D) (std : Bool) (now : Nat) (st : Plane P D) (a : Alt) :
    updatePosition g std now st a = match Coor.update g std now (store st.coords a) with
      | some t => if Coor.same g st.coords t then st else { st with track := some (st.track.getD [] ++ [st.coords]), coords := t }
      | none => { st with track := if st.coords.pos.isSome then some (st.track.getD [] ++ [st.coords]) else st.track, coords := {} } := rfl

/-- the closed form of `Coor.update` under a map `f` of the result: the identity in `update_eq`, the projections that forget the time stamp
in C20 -/
theorem map_update {α : Type} (f : Coor P D → α) (g : Geo P D) (std : Bool) (now : Nat) (c : Coor P D) :
    (Coor.update g std now c).map f =
      match c.even, c.odd with
      | some e, some o => (g.getPos e o).bind fun p =>
          if plausible g c.pos p
          then some (f { c with pos := some p, kd := some (g.rxDist p), lastTime := if std then some now else c.lastTime })
          else none
      | _, _ => some (f c) := by
  unfold Coor.update plausible
  cases c.even <;> cases c.odd <;> try rfl
  rename_i e o
  dsimp only
  cases g.getPos e o with
  | none => rfl
  | some p =>
    dsimp only [Option.bind_some]
    cases g.outOfRange (g.rxDist p) <;> cases c.pos <;> try rfl
    rename_i cur
    cases hj : g.jump (g.dist cur p) <;> simp [hj]

/-- **publish or clear**: with both reports stored, the candidate is the CPR pairing of exactly those two reports;
it is published (with its distance from the receiver) iff it is in range and within the jump limit of the
previously published position; otherwise — also when the pair does not decode — nothing of the record survives.
With only one report stored there is nothing to pair: the slots are kept as they are -/
theorem update_eq (g : Geo P D) (std : Bool) (now : Nat) (c : Coor P D) :
    Coor.update g std now c =
      match c.even, c.odd with
      | some e, some o => (g.getPos e o).bind fun p =>
          if plausible g c.pos p
          then some { c with pos := some p, kd := some (g.rxDist p), lastTime := if std then some now else c.lastTime }
          else none
      | _, _ => some c := by
  refine Eq.trans ?_ (map_update id g std now c)
  cases Coor.update g std now c <;> rfl

/-- an accepted update either had a slot empty and changed nothing, or published a plausible pairing of the two slots -/
theorem update_some {g : Geo P D} {std : Bool} {now : Nat} {c t : Coor P D} (hu : Coor.update g std now c = some t) :
    (t = c ∧ (c.even = none ∨ c.odd = none)) ∨
    ∃ e o p, c.even = some e ∧ c.odd = some o ∧ g.getPos e o = some p ∧ plausible g c.pos p = true ∧
      t = { c with pos := some p, kd := some (g.rxDist p), lastTime := if std then some now else c.lastTime } := by
  rw [update_eq] at hu
  revert hu
  cases c.even <;> cases c.odd <;> intro hu
  · exact Or.inl ⟨(Option.some.inj hu).symm, Or.inl rfl⟩
  · exact Or.inl ⟨(Option.some.inj hu).symm, Or.inl rfl⟩
  · exact Or.inl ⟨(Option.some.inj hu).symm, Or.inr rfl⟩
  · obtain ⟨p, hp, hu⟩ := Option.bind_eq_some_iff.mp hu
    split at hu
    · next hpl => exact Or.inr ⟨_, _, p, rfl, rfl, hp, hpl, (Option.some.inj hu).symm⟩
    · cases hu

/-- **the whole position record is cleared** whenever the update is rejected -/
theorem rejected_clears (g : Geo P D) (std : Bool) (now : Nat) (st : Plane P D) (a : Alt)
    (h : Coor.update g std now (store st.coords a) = none) :
    (updatePosition g std now st a).coords.even = none ∧ (updatePosition g std now st a).coords.odd = none ∧
    (updatePosition g std now st a).coords.pos = none ∧ (updatePosition g std now st a).coords.kd = none := by
  rw [updatePosition_eq, h]
  exact ⟨rfl, rfl, rfl, rfl⟩

/-- the invariant of a record's coordinates: a published position is the pairing of the two stored reports,
its distance is the distance from the receiver, and a distance is present exactly when a position is -/
def CoorInv (g : Geo P D) (c : Coor P D) : Prop :=
  (c.pos.isSome = c.kd.isSome) ∧
  (∀ p, c.pos = some p → ∃ e o, c.even = some e ∧ c.odd = some o ∧ g.getPos e o = some p ∧ c.kd = some (g.rxDist p) ∧
      g.outOfRange (g.rxDist p) = false)

theorem coorInv_default (g : Geo P D) : CoorInv g ({} : Coor P D) := ⟨rfl, fun p h => by cases h⟩

theorem store_fields (c : Coor P D) (a : Alt) :
    (store c a).pos = c.pos ∧ (store c a).kd = c.kd ∧ ((store c a).even = none → c.even = none) ∧ ((store c a).odd = none → c.odd = none) := by
  unfold store; split <;> simp

theorem plausible_inRange {g : Geo P D} {cur : Option P} {p : P} (h : plausible g cur p = true) : g.outOfRange (g.rxDist p) = false := by
  unfold plausible at h; cases hr : g.outOfRange (g.rxDist p) <;> simp [hr] at h ⊢

/-- **invariant step**: position updates preserve the invariant -/
theorem coorInv_update (g : Geo P D) (std : Bool) (now : Nat) (st : Plane P D) (a : Alt) (hinv : CoorInv g st.coords) :
    CoorInv g (updatePosition g std now st a).coords := by
  rw [updatePosition_eq]
  cases hu : Coor.update g std now (store st.coords a) with
  | none => exact coorInv_default g
  | some t =>
    dsimp only
    split
    · exact hinv
    · obtain ⟨sp, sk, se, so⟩ := store_fields st.coords a
      rcases update_some hu with ⟨rfl, h⟩ | ⟨e, o, p, he, ho, hp, hpl, rfl⟩
      · -- position and distance are the record's; a slot of the record is empty, so by the invariant it has no position
        refine ⟨by rw [sp, sk]; exact hinv.1, fun p hp => ?_⟩
        obtain ⟨e, o, he, ho, _⟩ := hinv.2 p (sp ▸ hp)
        rcases h with h | h
        · cases (se h).symm.trans he
        · cases (so h).symm.trans ho
      · refine ⟨rfl, fun q hq => ?_⟩
        cases hq
        exact ⟨e, o, he, ho, hp, rfl, plausible_inRange hpl⟩

/-- the invariant for all records; every reachable state satisfies it (`allInv_run`) -/
def AllInv (g : Geo P D) (s : Airplanes P D) : Prop := ∀ k p, s.get k = some p → CoorInv g p.coords

theorem coorInv_stepPlane (g : Geo P D) (std : Bool) (now : Nat) (st : Plane P D) (me : ME) (h : CoorInv g st.coords) :
    CoorInv g (stepPlane g std now st me).coords :=
  payload_cases (motive := fun f => CoorInv g (f std now st).coords) g me h (fun _ => h) (fun _ => h) (fun a => coorInv_update g std now st a h)

theorem allInv_action (g : Geo P D) (std : Bool) (now : Nat) (s : Airplanes P D) (df : DF) (h : AllInv g s) :
    AllInv g (action g std now s df).1 := by
  intro k p hp
  by_cases hc : concerns k df = true
  · obtain ⟨me, hk⟩ := (concerns_iff k df).mp hc
    rw [get_action_own g std now s hk] at hp
    cases hp
    apply coorInv_stepPlane
    cases hg : s.get k with
    | none => exact coorInv_default g
    | some q => exact h k q hg
  · exact h k p (isolation_step g std now s df k hc ▸ hp)

theorem allInv_run (g : Geo P D) (std : Bool) (hist : List (Nat × DF)) (s : Airplanes P D) (h : AllInv g s) :
    AllInv g (run g std s hist) := by
  induction hist generalizing s with
  | nil => exact h
  | cons e rest ih => obtain ⟨now, df⟩ := e; exact ih _ (allInv_action g std now s df h)

/-- **in every reachable state** a published position is the CPR pairing of the stored even and odd report, lies within
range, and its distance is the distance from the receiver -/
theorem published_is_pairing (g : Geo P D) (std : Bool) (hist : List (Nat × DF)) (k : Nat) (pl : Plane P D) (p : P)
    (hg : (run g std [] hist).get k = some pl) (hp : pl.coords.pos = some p) :
    ∃ e o, pl.coords.even = some e ∧ pl.coords.odd = some o ∧ g.getPos e o = some p ∧ pl.coords.kd = some (g.rxDist p) ∧
      g.outOfRange (g.rxDist p) = false :=
  (allInv_run g std hist [] (fun _ _ h => by cases h) k pl hg).2 p hp

/-! ### the receiver may move between calls

`action` takes the receiver position with every call (radar refreshes it from gpsd), so the geometry `g` of one call need not be the one
of the calls before. Nothing is assumed about the record here — not the invariant, which speaks of one receiver. -/

/-- **the distance is measured from the receiver of *this* call**: whatever happened before, when a position report is processed under
geometry `g` with both slots then filled and the record is not cleared, the reported distance is the distance from `g`'s receiver to the
pairing of the two stored reports — also when the report is the very one already stored and only the receiver has moved (the "nothing new"
shortcut compares the distance too; seed C13_f dropped that comparison). `==` on distances is assumed to be equality (no NaN distance is
ever stored: `outOfRange` rejects it). -/
theorem distance_is_from_this_call (g : Geo P D) (std : Bool) (now : Nat) (st : Plane P D) (a e o : Alt)
    (he : (store st.coords a).even = some e) (ho : (store st.coords a).odd = some o)
    (hdeq : ∀ x y, g.deq x y = true → x = y)
    (hpub : (updatePosition g std now st a).coords.pos.isSome = true) :
    ∃ q, g.getPos e o = some q ∧ (updatePosition g std now st a).coords.kd = some (g.rxDist q) := by
  rw [updatePosition_eq] at hpub ⊢
  cases hu : Coor.update g std now (store st.coords a) with
  | none => rw [hu] at hpub; cases hpub
  | some t =>
    rcases update_some hu with ⟨_, h | h⟩ | ⟨e', o', q, he', ho', hq, _, ht⟩
    · cases he.symm.trans h
    · cases ho.symm.trans h
    · cases he.symm.trans he'; cases ho.symm.trans ho'
      have hkd : t.kd = some (g.rxDist q) := by rw [ht]
      refine ⟨q, hq, ?_⟩
      dsimp only
      split
      · next hsame =>
        -- "same coords": the stored distance is `==` to the recomputed one
        have hk : optEq g.deq st.coords.kd t.kd = true := by
          unfold Coor.same at hsame; simp only [Bool.and_eq_true] at hsame; exact hsame.2
        rw [hkd] at hk
        cases hd : st.coords.kd with
        | none => rw [hd] at hk; cases hk
        | some d => rw [hd] at hk; rw [hdeq d _ hk]
      · exact hkd

/-- non-vacuity of `distance_is_from_this_call`, and the moved-receiver case itself, on a toy geometry (positions and distances are numbers,
the receiver stands at `r`): the same odd report again after the receiver moved from 0 to 5 — the distance follows the receiver -/
def toyGeo (r : Nat) : Geo Nat Nat :=
  { getPos := fun e o => some (e.lat + o.lat), rxDist := fun p => if p ≥ r then p - r else r - p, dist := fun p q => if p ≥ q then p - q else q - p,
    outOfRange := fun d => decide (d > 100), jump := fun d => decide (d > 10), peq := fun a b => a == b, deq := fun a b => a == b }
example :
    let e : Alt := ⟨11, 0, 0, none, 0, 0, 20, 0⟩; let o : Alt := ⟨11, 0, 0, none, 0, 1, 22, 0⟩
    let s1 := updatePosition (toyGeo 0) true 0 (updatePosition (toyGeo 0) true 0 ({} : Plane Nat Nat) e) o
    let s2 := updatePosition (toyGeo 5) true 0 s1 o
    s1.coords.pos = some 42 ∧ s1.coords.kd = some 42 ∧ s2.coords.pos = some 42 ∧ s2.coords.kd = some 37 := by decide

end Adsb.C13
