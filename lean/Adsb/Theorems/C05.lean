import Adsb.Cpr
import Adsb.Spec.NlTable
/-! # C05 — CPR global position decoding (part 1: structure of the NL table and of the pairing)

The exact-arithmetic model is `getPosition (α := Rat)`. This file proves the facts that need no real
analysis: the if-tree of `cpr_nl` *is* the published transition table (regenerated tree vs the table computed
from the closed form), the table's NL values run from 59 down to 2 in steps of one over increasing thresholds (`table_shape`), equal
parities pair to nothing.
The metric correctness theorem is in `Theorems/C05b.lean` (Mathlib). -/

namespace Adsb.C05

/-- The statement tree of `cpr_nl` is flattened into a chain `(threshold, NL)` (`flattenStmts`): a nested `if lat < t { … }` bounds every
threshold inside it by `t` (exactly: `lat < min t' t ↔ lat < t' ∧ lat < t`). `tighten`: a nested `if lat < thr` inside a block already
bounded by `bound`. -/
def tighten (thr : Nat) : Option Nat → Nat
  | some b => min thr b
  | none => thr

mutual
def flattenStmts : List Gen.NlStmt → Option Nat → List (Option Nat × Nat)
  | [], _ => []
  | s :: rest, bound => flattenStmt s bound ++ flattenStmts rest bound
def flattenStmt : Gen.NlStmt → Option Nat → List (Option Nat × Nat)
  | .ret n, bound => [(bound, n)]
  | .ite thr body, bound => flattenStmts body (some (tighten thr bound))
end

/-- the chain up to (and including) the first unconditional return -/
def chainOf (l : List (Option Nat × Nat)) : List (Nat × Nat) × Nat :=
  match l with
  | [] => ([], 1)
  | (none, n) :: _ => ([], n)
  | (some t, n) :: rest => let (c, d) := chainOf rest; ((t, n) :: c, d)

/-- **the regenerated `cpr_nl` tree is the published NL table** (thresholds to 8 decimals, computed from the closed
form), with NL = 1 above the last threshold. Re-checked against the source on every run. -/
theorem nl_tree_is_table : chainOf (flattenStmts Gen.nlTree none) = (Spec.nlTable, 1) := by decide

/-- every entry of the table: 2 ≤ NL ≤ 59, thresholds strictly increasing, NL strictly decreasing -/
def tableOk : List (Nat × Nat) → Bool
  | [] => true
  | [(_, n)] => decide (2 ≤ n ∧ n ≤ 59)
  | (t1, n1) :: (t2, n2) :: rest => decide (2 ≤ n1 ∧ n1 ≤ 59 ∧ t1 < t2 ∧ n2 + 1 = n1) && tableOk ((t2, n2) :: rest)

theorem table_shape : tableOk Spec.nlTable = true ∧ Spec.nlTable.length = 58 ∧
    Spec.nlTable.head? = some (1047047130, 59) ∧ Spec.nlTable.getLast? = some (8700000000, 2) := by decide

/-- lookup in a chain: NL of a (scaled, non-negative) latitude -/
def chainNl (tbl : List (Nat × Nat)) (dflt : Nat) (a : Rat) : Nat :=
  match tbl with
  | [] => dflt
  | (t, n) :: rest => if a < (t : Rat) / 100000000 then n else chainNl rest dflt a

theorem chainNl_range (tbl : List (Nat × Nat)) (a : Rat) (h : ∀ e ∈ tbl, 1 ≤ e.2 ∧ e.2 ≤ 59) : 1 ≤ chainNl tbl 1 a ∧ chainNl tbl 1 a ≤ 59 := by
  induction tbl with
  | nil => simp [chainNl]
  | cons e rest ih =>
    obtain ⟨t, n⟩ := e
    unfold chainNl
    split
    · exact h (t, n) List.mem_cons_self
    · exact ih (fun e he => h e (List.mem_cons_of_mem _ he))

theorem table_entries_range : ∀ e ∈ Spec.nlTable, 1 ≤ e.2 ∧ e.2 ≤ 59 := by decide

/-- two reports of equal parity yield no position (exact model and, being the same definition, the float instance) -/
theorem same_parity_none (a b : Alt) (h : a.f = b.f) : (getPosition (α := Rat) a b).isNone = true := by
  unfold getPosition; simp [h]

theorem same_parity_none_float (a b : Alt) (h : a.f = b.f) : (getPosition (α := Float) a b).isNone = true := by
  unfold getPosition; simp [h]

end Adsb.C05
