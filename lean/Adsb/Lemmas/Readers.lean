import Adsb.Lemmas.Decode
/-! # Field-position lemmas for every payload reader, at a symbolic position `bp`

Each lemma says: on any buffer long enough, the reader returns exactly the listed bit fields
(`bitsAt B off w`, MSB first) and advances by the stated number of bits. They are the building
blocks of the per-format characterisations in `Lemmas/Paths.lean`. -/

namespace Adsb

attribute [local congr] Res.bind_congr_left

theorem readUM_ok (B : Buf) (bp hi : Nat) (h : bp + 6 ≤ 8 * B.len) :
    readUM B ⟨bp, hi⟩ = .ok (⟨bitsAt B bp 4, bitsAt B (bp + 4) 2⟩, ⟨bp + 6, max hi ((bp + 13) / 8)⟩) := by
  dk [readUM, fits h]

theorem readAlt_ok (B : Buf) (bp hi : Nat) (h : bp + 56 ≤ 8 * B.len) :
    readAlt B ⟨bp, hi⟩ = .ok (
      { tc := bitsAt B bp 5, ss := bitsAt B (bp + 5) 2, saf := bitsAt B (bp + 7) 1, alt := ac12 (bitsAt B (bp + 8) 12),
        t := bitsAt B (bp + 20) 1, f := bitsAt B (bp + 21) 1, lat := bitsAt B (bp + 22) 17, lon := bitsAt B (bp + 39) 17 },
      ⟨bp + 56, max hi ((bp + 63) / 8)⟩) := by
  dk [readAlt, fits h]

/-- `0 < k`: with no character nothing is read and `hi` stays as it is -/
theorem readChars_ok (B : Buf) (k bp hi : Nat) (h : bp + 6 * k ≤ 8 * B.len) (hk : 0 < k) :
    readChars B k ⟨bp, hi⟩ = .ok ((List.range k).map (fun i => bitsAt B (bp + 6 * i) 6),
      ⟨bp + 6 * k, max hi ((bp + 6 * k + 7) / 8)⟩) := by
  induction k generalizing bp hi with
  | zero => omega
  | succ k ih =>
    by_cases hk0 : k = 0
    · subst hk0
      dk [readChars, List.range_succ, List.range_zero, List.map_cons, List.map_nil, List.nil_append, fits h]
    · rw [readChars, readBits_ok _ _ _ _ (by omega), Res.ok_bind]
      dsimp only
      rw [ih (bp + 6) _ (by omega) (by omega), Res.ok_bind, Res.pure_eq, List.range_succ_eq_map, List.map_cons, List.map_map]
      have e : ∀ i, bp + 6 + 6 * i = bp + 6 * (i + 1) := fun i => by omega
      simp only [e, Function.comp_def, Nat.succ_eq_add_one, Nat.mul_zero, Nat.add_zero]
      congr 3; omega

def identAt (B : Buf) (off : Nat) : List Nat :=
  identText [bitsAt B off 6, bitsAt B (off + 6) 6, bitsAt B (off + 12) 6, bitsAt B (off + 18) 6,
    bitsAt B (off + 24) 6, bitsAt B (off + 30) 6, bitsAt B (off + 36) 6, bitsAt B (off + 42) 6]

theorem readIdent8_ok (B : Buf) (bp hi : Nat) (h : bp + 48 ≤ 8 * B.len) :
    readIdent8 B ⟨bp, hi⟩ = .ok (identAt B bp, ⟨bp + 48, max hi ((bp + 55) / 8)⟩) := by
  rw [readIdent8, readChars_ok B 8 bp hi h (by decide), Res.ok_bind]; rfl

theorem readIdent_ok (B : Buf) (bp hi : Nat) (h : bp + 56 ≤ 8 * B.len) (htc : 1 ≤ bitsAt B bp 5 ∧ bitsAt B bp 5 ≤ 4) :
    readIdent B ⟨bp, hi⟩ = .ok ({ tc := bitsAt B bp 5, ca := bitsAt B (bp + 5) 3, cn := identAt B (bp + 8) },
      ⟨bp + 56, max hi ((bp + 63) / 8)⟩) := by
  dk [readIdent, readIdent8_ok, htc, fits h]

theorem readSurf_ok (B : Buf) (bp hi : Nat) (h : bp + 51 ≤ 8 * B.len) :
    readSurf B ⟨bp, hi⟩ = .ok (
      { mov := bitsAt B bp 7, s := bitsAt B (bp + 7) 1, trk := bitsAt B (bp + 8) 7, t := bitsAt B (bp + 15) 1,
        f := bitsAt B (bp + 16) 1, lat := bitsAt B (bp + 17) 17, lon := bitsAt B (bp + 34) 17 },
      ⟨bp + 51, max hi ((bp + 58) / 8)⟩) := by
  dk [readSurf, fits h]

theorem readVelGround_ok (B : Buf) (bp hi : Nat) (h : bp + 22 ≤ 8 * B.len) :
    readVelGround B ⟨bp, hi⟩ = .ok (.ground (bitsAt B bp 1) (bitsAt B (bp + 1) 10) (bitsAt B (bp + 11) 1) (bitsAt B (bp + 12) 10),
      ⟨bp + 22, max hi ((bp + 29) / 8)⟩) := by
  dk [readVelGround, fits h]

theorem readVelAirspeed_ok (B : Buf) (bp hi : Nat) (h : bp + 22 ≤ 8 * B.len) :
    readVelAirspeed B ⟨bp, hi⟩ = .ok (.airspeed (bitsAt B bp 1) (bitsAt B (bp + 1) 10) (bitsAt B (bp + 11) 1)
        (if bitsAt B (bp + 12) 10 > 0 then bitsAt B (bp + 12) 10 - 1 else 0),
      ⟨bp + 22, max hi ((bp + 29) / 8)⟩) := by
  dk [readVelAirspeed, fits h]

theorem readVelReserved0_ok (B : Buf) (bp hi : Nat) (h : bp + 22 ≤ 8 * B.len) :
    readVelReserved0 B ⟨bp, hi⟩ = .ok (.reserved0 (leBitsAt B bp 22), ⟨bp + 22, max hi ((bp + 29) / 8)⟩) := by
  dk [readVelReserved0, fits h]

theorem readVelReserved1_ok (B : Buf) (bp hi : Nat) (h : bp + 22 ≤ 8 * B.len) :
    readVelReserved1 B ⟨bp, hi⟩ = .ok (.reserved1 (leBitsAt B bp 22), ⟨bp + 22, max hi ((bp + 29) / 8)⟩) := by
  dk [readVelReserved1, fits h]

/-- the sub-type payload selected by the 3-bit subtype, as a function of the buffer -/
def velSubAt (B : Buf) (st bp : Nat) : VelSub :=
  if st = 0 then .reserved0 (leBitsAt B bp 22)
  else if st ≤ 2 then .ground (bitsAt B bp 1) (bitsAt B (bp + 1) 10) (bitsAt B (bp + 11) 1) (bitsAt B (bp + 12) 10)
  else if st ≤ 4 then .airspeed (bitsAt B bp 1) (bitsAt B (bp + 1) 10) (bitsAt B (bp + 11) 1)
        (if bitsAt B (bp + 12) 10 > 0 then bitsAt B (bp + 12) 10 - 1 else 0)
  else .reserved1 (leBitsAt B bp 22)

theorem readVelSub_ok (B : Buf) (st bp hi : Nat) (h : bp + 22 ≤ 8 * B.len) :
    readVelSub B st ⟨bp, hi⟩ = .ok (velSubAt B st bp, ⟨bp + 22, max hi ((bp + 29) / 8)⟩) := by
  unfold readVelSub velSubAt
  let P (r : Res (VelSub × RS)) (v : VelSub) := r = .ok (v, ⟨bp + 22, max hi ((bp + 29) / 8)⟩)
  exact ite_ind₂ (P := P) (fun _ => readVelReserved0_ok B bp hi h) fun _ => ite_ind₂ (P := P) (fun _ => readVelGround_ok B bp hi h)
    fun _ => ite_ind₂ (P := P) (fun _ => readVelAirspeed_ok B bp hi h) fun _ => readVelReserved1_ok B bp hi h

theorem readVel_ok (B : Buf) (bp hi : Nat) (h : bp + 51 ≤ 8 * B.len) :
    readVel B ⟨bp, hi⟩ = .ok (
      { st := bitsAt B bp 3, nacv := bitsAt B (bp + 3) 5, sub := velSubAt B (bitsAt B bp 3) (bp + 8),
        vrateSrc := bitsAt B (bp + 30) 1, vrateSign := bitsAt B (bp + 31) 1, vrate := bitsAt B (bp + 32) 9,
        reserved := bitsAt B (bp + 41) 2, gnssSign := bitsAt B (bp + 43) 1,
        gnssDiff := if bitsAt B (bp + 44) 7 > 1 then (bitsAt B (bp + 44) 7 - 1) * 25 else 0 },
      ⟨bp + 51, max hi ((bp + 58) / 8)⟩) := by
  dk [readVel, readVelSub_ok, fits h]

theorem readAcStatus_ok (B : Buf) (bp hi : Nat) (h : bp + 51 ≤ 8 * B.len) :
    readAcStatus B ⟨bp, hi⟩ = .ok (
      { subType := if bitsAt B bp 3 ≤ 2 then bitsAt B bp 3 else 3, emergency := bitsAt B (bp + 3) 3,
        squawk := decodeId13 (bitsAt B (bp + 6) 13) },
      ⟨bp + 51, max hi ((bp + 58) / 8)⟩) := by
  dk [readAcStatus, fits h]

theorem readTSS_ok (B : Buf) (bp hi : Nat) (h : bp + 51 ≤ 8 * B.len) :
    readTSS B ⟨bp, hi⟩ = .ok (
      { subtype := bitsAt B bp 2, isFms := bitsAt B (bp + 3) 1,
        altitude := if bitsAt B (bp + 4) 11 > 1 then (bitsAt B (bp + 4) 11 - 1) * 32 else 0,
        qnhRaw := bitsAt B (bp + 15) 9, isHeading := bitsAt B (bp + 24) 1, headingRaw := bitsAt B (bp + 25) 9,
        nacp := bitsAt B (bp + 34) 4, nicbaro := bitsAt B (bp + 38) 1, sil := bitsAt B (bp + 39) 2,
        modeValidity := bitsAt B (bp + 41) 1, autopilot := bitsAt B (bp + 42) 1, vnav := bitsAt B (bp + 43) 1,
        altHold := bitsAt B (bp + 44) 1, imf := bitsAt B (bp + 45) 1, approach := bitsAt B (bp + 46) 1,
        tcas := bitsAt B (bp + 47) 1, lnav := bitsAt B (bp + 48) 1 },
      ⟨bp + 51, max hi ((bp + 58) / 8)⟩) := by
  dk [readTSS, fits h]

theorem readOpMode_ok (B : Buf) (bp hi : Nat) (h : bp + 8 ≤ 8 * B.len) (hr : bitsAt B bp 2 = 0) :
    readOpMode B ⟨bp, hi⟩ = .ok (
      { ra := bitsAt B (bp + 2) 1, ident := bitsAt B (bp + 3) 1, atc := bitsAt B (bp + 4) 1, saf := bitsAt B (bp + 5) 1,
        sda := bitsAt B (bp + 6) 2 }, ⟨bp + 8, max hi ((bp + 15) / 8)⟩) := by
  dk [readOpMode, hr, fits h]

theorem readVersion_ok (B : Buf) (bp hi : Nat) (h : bp + 3 ≤ 8 * B.len) (hv : bitsAt B bp 3 ≤ 2) :
    readVersion B ⟨bp, hi⟩ = .ok (bitsAt B bp 3, ⟨bp + 3, max hi ((bp + 10) / 8)⟩) := by
  dk [readVersion, hv, fits h]

/-- the acceptance condition of an airborne operational status payload starting (after the 3-bit subtype) at `bp` -/
def opAirOk (B : Buf) (bp : Nat) : Prop :=
  bitsAt B bp 2 = 0 ∧ bitsAt B (bp + 4) 2 = 0 ∧ bitsAt B (bp + 16) 2 = 0 ∧ bitsAt B (bp + 32) 3 ≤ 2

theorem readOpAir_ok (B : Buf) (bp hi : Nat) (h : bp + 48 ≤ 8 * B.len) (hok : opAirOk B bp) :
    readOpAir B ⟨bp, hi⟩ = .ok (
      { acas := bitsAt B (bp + 2) 1, cdti := bitsAt B (bp + 3) 1, arv := bitsAt B (bp + 6) 1, ts := bitsAt B (bp + 7) 1,
        tc := bitsAt B (bp + 8) 2,
        om := { ra := bitsAt B (bp + 18) 1, ident := bitsAt B (bp + 19) 1, atc := bitsAt B (bp + 20) 1,
                saf := bitsAt B (bp + 21) 1, sda := bitsAt B (bp + 22) 2 },
        version := bitsAt B (bp + 32) 3, nicA := bitsAt B (bp + 35) 1, nacp := bitsAt B (bp + 36) 4,
        gva := bitsAt B (bp + 40) 2, sil := bitsAt B (bp + 42) 2, nicbaro := bitsAt B (bp + 44) 1,
        hrd := bitsAt B (bp + 45) 1, silSupp := bitsAt B (bp + 46) 1 },
      ⟨bp + 48, max hi ((bp + 55) / 8)⟩) := by
  obtain ⟨h0, h1, h2, h3⟩ := hok
  dk [readOpAir, readOpMode_ok, readVersion_ok, h0, h1, h2, h3, fits h]

/-- the acceptance condition of a surface operational status payload -/
def opSurfOk (B : Buf) (bp : Nat) : Prop :=
  bitsAt B bp 2 = 0 ∧ bitsAt B (bp + 16) 2 = 0 ∧ bitsAt B (bp + 32) 3 ≤ 2

theorem readOpSurf_ok (B : Buf) (bp hi : Nat) (h : bp + 48 ≤ 8 * B.len) (hok : opSurfOk B bp) :
    readOpSurf B ⟨bp, hi⟩ = .ok (
      { poe := bitsAt B (bp + 2) 1, es1090 := bitsAt B (bp + 3) 1, b2low := bitsAt B (bp + 6) 1, uatIn := bitsAt B (bp + 7) 1,
        nacv := bitsAt B (bp + 8) 3, nicC := bitsAt B (bp + 11) 1, lw := bitsAt B (bp + 12) 4,
        om := { ra := bitsAt B (bp + 18) 1, ident := bitsAt B (bp + 19) 1, atc := bitsAt B (bp + 20) 1,
                saf := bitsAt B (bp + 21) 1, sda := bitsAt B (bp + 22) 2 },
        gpsOffset := bitsAt B (bp + 24) 8, version := bitsAt B (bp + 32) 3, nicA := bitsAt B (bp + 35) 1,
        nacp := bitsAt B (bp + 36) 4, sil := bitsAt B (bp + 42) 2, nicbaro := bitsAt B (bp + 44) 1,
        hrd := bitsAt B (bp + 45) 1, silSupp := bitsAt B (bp + 46) 1 },
      ⟨bp + 48, max hi ((bp + 55) / 8)⟩) := by
  obtain ⟨h0, h2, h3⟩ := hok
  dk [readOpSurf, readOpMode_ok, readVersion_ok, h0, h2, h3, fits h]

theorem readDLC_ok (B : Buf) (bp hi : Nat) (h : bp + 48 ≤ 8 * B.len) :
    readDLC B ⟨bp, hi⟩ = .ok (
      { continuation := bitsAt B bp 1, overlay := bitsAt B (bp + 6) 1, acas := bitsAt B (bp + 7) 1,
        subnet := bitsAt B (bp + 8) 7, enhanced := bitsAt B (bp + 15) 1, specific := bitsAt B (bp + 16) 1,
        uplinkElm := bitsAt B (bp + 17) 3, downlinkElm := bitsAt B (bp + 20) 4, identCap := bitsAt B (bp + 24) 1,
        squitterCap := bitsAt B (bp + 25) 1, sic := bitsAt B (bp + 26) 1, gicb := bitsAt B (bp + 27) 1,
        reservedAcas := bitsAt B (bp + 28) 4, bitArray := bitsAt B (bp + 32) 16 },
      ⟨bp + 48, max hi ((bp + 55) / 8)⟩) := by
  dk [readDLC, fits h]

end Adsb
