import Adsb.Lemmas.Readers
/-! # Closed-form characterisation of `decode`

`dfAt B` is the decoded `DF` value written directly as bit fields of the buffer (no reader state, no
monad). This file holds the header pieces and the ME field, with the case analysis on the type code that reader
(`meBody`) and closed form (`meAt`) share; `Lemmas/Char.lean` has the Comm-B field, `dfAt` and the acceptance set.

The literal reader states are where the decoder stands after the reads before: `⟨bp, hi⟩` is the bit position and the number of bytes
pulled so far, so `⟨5, 1⟩` follows the format code, `⟨8, 1⟩` the capability field, `⟨32, 4⟩` is the start of the ME / MB field and
`⟨37, 5⟩` follows its type code. -/

namespace Adsb

attribute [local congr] Res.bind_congr_left

def capAt (B : Buf) : Cap :=
  { id := bitsAt B 5 3, reserved := if 1 ≤ bitsAt B 5 3 ∧ bitsAt B 5 3 ≤ 3 then bitsAt B 5 3 else 0 }

theorem readCap_5 (B : Buf) (h : 1 ≤ B.len) : readCap B ⟨5, 1⟩ = .ok (capAt B, ⟨8, 1⟩) := by
  unfold capAt
  by_cases hr : 1 ≤ bitsAt B 5 3 ∧ bitsAt B 5 3 ≤ 3
  · dk [readCap, readCapReserved, hr, fits_lit h]
  · dk [readCap, hr, fits_lit h]

def drKnown (id : Nat) : Prop := id = 0 ∨ id = 1 ∨ id = 4 ∨ id = 5
instance (id : Nat) : Decidable (drKnown id) := by unfold drKnown; infer_instance

def drAt (B : Buf) : DR :=
  { id := bitsAt B 8 5, unknown := if drKnown (bitsAt B 8 5) then none else some (bitsAt B 8 5) }

theorem readDR_8 (B : Buf) (h : 2 ≤ B.len) : readDR B ⟨8, 1⟩ = .ok (drAt B, ⟨13, 2⟩) := by
  unfold drAt drKnown
  by_cases hd : bitsAt B 8 5 = 0 ∨ bitsAt B 8 5 = 1 ∨ bitsAt B 8 5 = 4 ∨ bitsAt B 8 5 = 5
  · dk [readDR, hd, fits_lit h]
  · dk [readDR, readDRUnknown, hd, fits_lit h]

def umAt (B : Buf) : UM := { iis := bitsAt B 13 4, ids := bitsAt B 17 2 }

/-! ## the ME field (frame bits 32–87) -/

def altAt (B : Buf) : Alt :=
  { tc := bitsAt B 32 5, ss := bitsAt B 37 2, saf := bitsAt B 39 1, alt := ac12 (bitsAt B 40 12),
    t := bitsAt B 52 1, f := bitsAt B 53 1, lat := bitsAt B 54 17, lon := bitsAt B 71 17 }

def velAt (B : Buf) : Vel :=
  { st := bitsAt B 37 3, nacv := bitsAt B 40 5, sub := velSubAt B (bitsAt B 37 3) 45,
    vrateSrc := bitsAt B 67 1, vrateSign := bitsAt B 68 1, vrate := bitsAt B 69 9,
    reserved := bitsAt B 78 2, gnssSign := bitsAt B 80 1,
    gnssDiff := if bitsAt B 81 7 > 1 then (bitsAt B 81 7 - 1) * 25 else 0 }

def surfAt (B : Buf) : Surf :=
  { mov := bitsAt B 37 7, s := bitsAt B 44 1, trk := bitsAt B 45 7, t := bitsAt B 52 1,
    f := bitsAt B 53 1, lat := bitsAt B 54 17, lon := bitsAt B 71 17 }

def statusAt (B : Buf) : AcStatus :=
  { subType := if bitsAt B 37 3 ≤ 2 then bitsAt B 37 3 else 3, emergency := bitsAt B 40 3,
    squawk := decodeId13 (bitsAt B 43 13) }

def tssAt (B : Buf) : TSS :=
  { subtype := bitsAt B 37 2, isFms := bitsAt B 40 1,
    altitude := if bitsAt B 41 11 > 1 then (bitsAt B 41 11 - 1) * 32 else 0,
    qnhRaw := bitsAt B 52 9, isHeading := bitsAt B 61 1, headingRaw := bitsAt B 62 9,
    nacp := bitsAt B 71 4, nicbaro := bitsAt B 75 1, sil := bitsAt B 76 2,
    modeValidity := bitsAt B 78 1, autopilot := bitsAt B 79 1, vnav := bitsAt B 80 1,
    altHold := bitsAt B 81 1, imf := bitsAt B 82 1, approach := bitsAt B 83 1,
    tcas := bitsAt B 84 1, lnav := bitsAt B 85 1 }

def opAirAt (B : Buf) : OpAir :=
  { acas := bitsAt B 42 1, cdti := bitsAt B 43 1, arv := bitsAt B 46 1, ts := bitsAt B 47 1, tc := bitsAt B 48 2,
    om := { ra := bitsAt B 58 1, ident := bitsAt B 59 1, atc := bitsAt B 60 1, saf := bitsAt B 61 1, sda := bitsAt B 62 2 },
    version := bitsAt B 72 3, nicA := bitsAt B 75 1, nacp := bitsAt B 76 4, gva := bitsAt B 80 2, sil := bitsAt B 82 2,
    nicbaro := bitsAt B 84 1, hrd := bitsAt B 85 1, silSupp := bitsAt B 86 1 }

def opSurfAt (B : Buf) : OpSurf :=
  { poe := bitsAt B 42 1, es1090 := bitsAt B 43 1, b2low := bitsAt B 46 1, uatIn := bitsAt B 47 1, nacv := bitsAt B 48 3,
    nicC := bitsAt B 51 1, lw := bitsAt B 52 4,
    om := { ra := bitsAt B 58 1, ident := bitsAt B 59 1, atc := bitsAt B 60 1, saf := bitsAt B 61 1, sda := bitsAt B 62 2 },
    gpsOffset := bitsAt B 64 8, version := bitsAt B 72 3, nicA := bitsAt B 75 1, nacp := bitsAt B 76 4, sil := bitsAt B 82 2,
    nicbaro := bitsAt B 84 1, hrd := bitsAt B 85 1, silSupp := bitsAt B 86 1 }

def opStatusAt (B : Buf) : OpStatus :=
  if bitsAt B 37 3 = 0 then .airborne (opAirAt B)
  else if bitsAt B 37 3 = 1 then .surface (opSurfAt B)
  else .reserved (bitsAt B 32 5) (bitsAt B 37 40)

/-- the only payloads the decoder rejects: operational status, subtype 0/1, outside the version 0–2 layout -/
def opOk (B : Buf) : Prop :=
  (bitsAt B 37 3 = 0 → opAirOk B 40) ∧ (bitsAt B 37 3 = 1 → opSurfOk B 40)

instance (B : Buf) (bp : Nat) : Decidable (opAirOk B bp) := by unfold opAirOk; infer_instance
instance (B : Buf) (bp : Nat) : Decidable (opSurfOk B bp) := by unfold opSurfOk; infer_instance
instance (B : Buf) : Decidable (opOk B) := by unfold opOk; infer_instance

def meOk (B : Buf) : Prop := bitsAt B 32 5 = 31 → opOk B
instance (B : Buf) : Decidable (meOk B) := by unfold meOk; infer_instance

/-- the ME payload as bit fields of the frame; same case order as the decoder's `match` -/
def meAt (B : Buf) : ME :=
  let tc := bitsAt B 32 5
  if 9 ≤ tc ∧ tc ≤ 18 then .airPosBaro (altAt B)
  else if tc = 19 then .velocity (velAt B)
  else if tc = 0 then .noPosition (bitsAt B 37 48)
  else if tc ≤ 4 then .ident { tc := bitsAt B 32 5, ca := bitsAt B 37 3, cn := identAt B 40 }
  else if tc ≤ 8 then .surface (surfAt B)
  else if 20 ≤ tc ∧ tc ≤ 22 then .airPosGnss (altAt B)
  else if tc = 23 then .reserved0 (bitsAt B 37 48)
  else if tc = 24 then .surfaceSystemStatus (bitsAt B 32 48)
  else if tc ≤ 27 then .reserved1 (bitsAt B 32 48)
  else if tc = 28 then .status (statusAt B)
  else if tc = 29 then .tss (tssAt B)
  else if tc = 30 then .opCoord (bitsAt B 37 48)
  else .opStatus (opStatusAt B)

theorem meAirPos_ok (B : Buf) (h : 11 ≤ B.len) : meAirPos B ⟨37, 5⟩ = .ok (altAt B, ⟨88, 11⟩) := by
  dk [meAirPos, readAlt_ok, altAt, fits_lit h]

theorem readOpStatus_ok (B : Buf) (h : 11 ≤ B.len) (hok : opOk B) :
    readOpStatus B ⟨37, 5⟩ = .ok (opStatusAt B, ⟨88, 11⟩) := by
  unfold opStatusAt
  obtain ⟨ha, hs⟩ := hok
  by_cases h0 : bitsAt B 37 3 = 0
  · dk [readOpStatus, readOpAirborne, readOpAir_ok, ha h0, h0, opAirAt, fits_lit h]
  · by_cases h1 : bitsAt B 37 3 = 1
    · dk [readOpStatus, readOpSurface, readOpSurf_ok, hs h1, h0, h1, opSurfAt, fits_lit h]
    · dk [readOpStatus, readOpReserved, h0, h1, fits_lit h]

theorem readME_eq (B : Buf) (h : 5 ≤ B.len) : readME B ⟨32, 4⟩ = meBody (bitsAt B 32 5) B ⟨37, 5⟩ := by dk [readME, fits_lit h]

/-- **case analysis on the type code**: `meBody` and `meAt` select their variant alike, so a statement about the type code,
the variant reader and the closed form is proved variant by variant. (Proofs go through this rather than unfold the two
`if` chains at a symbolic code.) -/
theorem meAt_cases (B : Buf) {motive : Nat → (RS → Res (ME × RS)) → ME → Prop}
    (h1 : 9 ≤ bitsAt B 32 5 → bitsAt B 32 5 ≤ 18 → motive (bitsAt B 32 5) (meAirPosBaro B) (.airPosBaro (altAt B)))
    (h2 : motive 19 (meVelocity B) (.velocity (velAt B)))
    (h3 : motive 0 (meNoPosition B) (.noPosition (bitsAt B 37 48)))
    (h4 : 1 ≤ bitsAt B 32 5 → bitsAt B 32 5 ≤ 4 →
      motive (bitsAt B 32 5) (meIdent B) (.ident { tc := bitsAt B 32 5, ca := bitsAt B 37 3, cn := identAt B 40 }))
    (h5 : 5 ≤ bitsAt B 32 5 → bitsAt B 32 5 ≤ 8 → motive (bitsAt B 32 5) (meSurface B) (.surface (surfAt B)))
    (h6 : 20 ≤ bitsAt B 32 5 → bitsAt B 32 5 ≤ 22 → motive (bitsAt B 32 5) (meAirPosGnss B) (.airPosGnss (altAt B)))
    (h7 : motive 23 (meReserved0 B) (.reserved0 (bitsAt B 37 48)))
    (h8 : motive 24 (meSurfaceSystemStatus B) (.surfaceSystemStatus (bitsAt B 32 48)))
    (h9 : 25 ≤ bitsAt B 32 5 → bitsAt B 32 5 ≤ 27 → motive (bitsAt B 32 5) (meReserved1 B) (.reserved1 (bitsAt B 32 48)))
    (h10 : motive 28 (meStatus B) (.status (statusAt B)))
    (h11 : motive 29 (meTSS B) (.tss (tssAt B)))
    (h12 : motive 30 (meOpCoord B) (.opCoord (bitsAt B 37 48)))
    (h13 : motive 31 (meOpStatus B) (.opStatus (opStatusAt B))) :
    motive (bitsAt B 32 5) (meBody (bitsAt B 32 5) B) (meAt B) := by
  have hlt := bitsAt_lt B 32 5
  show motive _ (fun s => meBody _ B s) _
  simp only [meBody, meAt, fun_ite]
  generalize bitsAt B 32 5 = tc at *
  exact ite_ind₂ (fun c => h1 c.1 c.2) fun _ => ite_ind₂ (fun c => c ▸ h2) fun _ => ite_ind₂ (fun c => c ▸ h3) fun _ =>
    ite_ind₂ (fun c => h4 (by omega) c) fun _ => ite_ind₂ (fun c => h5 (by omega) c) fun _ => ite_ind₂ (fun c => h6 c.1 c.2) fun _ =>
    ite_ind₂ (fun c => c ▸ h7) fun _ => ite_ind₂ (fun c => c ▸ h8) fun _ => ite_ind₂ (fun c => h9 (by omega) c) fun _ =>
    ite_ind₂ (fun c => c ▸ h10) fun _ => ite_ind₂ (fun c => c ▸ h11) fun _ => ite_ind₂ (fun c => c ▸ h12) fun _ =>
    (show tc = 31 by omega) ▸ h13

theorem readME_ok (B : Buf) (h : 11 ≤ B.len) (hok : meOk B) : readME B ⟨32, 4⟩ = .ok (meAt B, ⟨88, 11⟩) := by
  rw [readME_eq B (by omega)]
  refine meAt_cases B (motive := fun tc r me => (tc = 31 → opOk B) → r ⟨37, 5⟩ = .ok (me, ⟨88, 11⟩))
    ?_ ?_ ?_ ?_ ?_ ?_ ?_ ?_ ?_ ?_ ?_ ?_ ?_ hok
  · intro _ _ _; dk [meAirPosBaro, meAirPos_ok, fits_lit h]
  · intro _; dk [meVelocity, readVel_ok, velAt, fits_lit h]
  · intro _; dk [meNoPosition, meRaw53, fits_lit h]
  · intro c1 c2 _; dk [meIdent, readIdent_ok, c1, c2, fits_lit h]
  · intro _ _ _; dk [meSurface, readSurf_ok, surfAt, fits_lit h]
  · intro _ _ _; dk [meAirPosGnss, meAirPos_ok, fits_lit h]
  · intro _; dk [meReserved0, meRaw53, fits_lit h]
  · intro _; dk [meSurfaceSystemStatus, meRaw56, fits_lit h]
  · intro _ _ _; dk [meReserved1, meRaw56, fits_lit h]
  · intro _; dk [meStatus, readAcStatus_ok, statusAt, fits_lit h]
  · intro _; dk [meTSS, readTSS_ok, tssAt, fits_lit h]
  · intro _; dk [meOpCoord, meRaw53, fits_lit h]
  · intro ho; dk [meOpStatus, readOpStatus_ok, ho rfl, fits_lit h]

/-! the type-code ranges, as equations of `meAt` (a single code `c` is `simp [meAt, c]`) -/

theorem meAt_airPosBaro (B : Buf) (h : 9 ≤ bitsAt B 32 5 ∧ bitsAt B 32 5 ≤ 18) : meAt B = .airPosBaro (altAt B) := by
  unfold meAt; simp only []; rw [if_pos h]

theorem meAt_ident (B : Buf) (h : 1 ≤ bitsAt B 32 5 ∧ bitsAt B 32 5 ≤ 4) :
    meAt B = .ident { tc := bitsAt B 32 5, ca := bitsAt B 37 3, cn := identAt B 40 } := by
  unfold meAt; simp only []; rw [if_neg (by omega), if_neg (by omega), if_neg (by omega), if_pos h.2]

theorem meAt_surface (B : Buf) (h : 5 ≤ bitsAt B 32 5 ∧ bitsAt B 32 5 ≤ 8) : meAt B = .surface (surfAt B) := by
  unfold meAt; simp only []; rw [if_neg (by omega), if_neg (by omega), if_neg (by omega), if_neg (by omega), if_pos h.2]

theorem meAt_airPosGnss (B : Buf) (h : 20 ≤ bitsAt B 32 5 ∧ bitsAt B 32 5 ≤ 22) : meAt B = .airPosGnss (altAt B) := by
  unfold meAt; simp only []
  rw [if_neg (by omega), if_neg (by omega), if_neg (by omega), if_neg (by omega), if_neg (by omega), if_pos h]

end Adsb
