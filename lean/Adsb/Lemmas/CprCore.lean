import Mathlib.Tactic.LinearCombination
import Mathlib.Data.Rat.Floor
/-! # The arithmetic core of CPR global decoding (Mathlib; used by `Lemmas/CprDecode`)

`gridIx N x` is a coordinate `x`, measured in zone widths, rounded to bins (`N = 2^17` bins per zone); `cprEnc N x` is the
transmitted value (the bin inside the zone), `cprZone N x` the zone the *rounded* coordinate lies in.  `cpr_j`: from the transmitted
fractions of two coordinates `u` (in a grid of `n` zones per turn) and `v` (in a grid of `n-1` zones per turn) that are close together,
the decoder's index `j = ⌊(n-1)·Y0/N − n·Y1/N + ½⌋` determines both zone numbers modulo the number of zones. -/

namespace Adsb.CprCore

/-- the rounded coordinate in bins: `⌊N·x + ½⌋` -/
def gridIx (N : ℕ) (x : ℚ) : ℤ := ⌊(N : ℚ) * x + 1/2⌋
/-- the transmitted value and the zone of the rounded coordinate -/
def cprEnc (N : ℕ) (x : ℚ) : ℤ := gridIx N x % (N : ℤ)
def cprZone (N : ℕ) (x : ℚ) : ℤ := gridIx N x / (N : ℤ)

theorem gridIx_eq_round (N : ℕ) (x : ℚ) : gridIx N x = round ((N : ℚ) * x) := (round_eq _).symm

theorem gridIx_decomp (N : ℕ) (x : ℚ) : gridIx N x = (N : ℤ) * cprZone N x + cprEnc N x :=
  (Int.mul_ediv_add_emod _ _).symm

theorem gridIx_close (N : ℕ) (x : ℚ) : |((gridIx N x : ℤ) : ℚ) - N * x| ≤ 1 / 2 := by
  rw [gridIx_eq_round, abs_sub_comm]; exact abs_sub_round _

theorem gridIx_mono (N : ℕ) {x y : ℚ} (h : x ≤ y) : gridIx N x ≤ gridIx N y :=
  Int.floor_le_floor (by gcongr)

theorem gridIx_grid (N : ℕ) (hN : 0 < N) (G : ℤ) : gridIx N ((G : ℚ) / N) = G := by
  rw [gridIx_eq_round, mul_div_cancel₀ _ (by positivity), round_intCast]

/-- the transmitted fraction is the position inside the zone up to the rounding error, at most half a bin -/
theorem cprEnc_err (N : ℕ) (hN : 0 < N) (x : ℚ) :
    ∃ e : ℚ, |e| ≤ 1 / 2 / N ∧ (cprEnc N x : ℚ) / N = x - cprZone N x + e := by
  have hNq : (0 : ℚ) < N := by exact_mod_cast hN
  refine ⟨(gridIx N x - N * x) / N, ?_, ?_⟩
  · rw [abs_div, abs_of_pos hNq]; gcongr; exact gridIx_close N x
  · rw [gridIx_decomp]; push_cast; field_simp; ring

theorem cprEnc_range (N : ℕ) (hN : 0 < N) (x : ℚ) : 0 ≤ (cprEnc N x : ℚ) / N ∧ (cprEnc N x : ℚ) / N < 1 := by
  have hNz : (0 : ℤ) < N := by exact_mod_cast hN
  have hNq : (0 : ℚ) < N := by exact_mod_cast hN
  rw [div_lt_one hNq]
  exact ⟨div_nonneg (by exact_mod_cast Int.emod_nonneg _ hNz.ne') hNq.le, by exact_mod_cast Int.emod_lt_of_pos _ hNz⟩

theorem floor_add_half_eq {x : ℚ} {M : ℤ} (h : |x - M| < 1 / 2) : ⌊x + 1 / 2⌋ = M := by
  obtain ⟨h1, h2⟩ := abs_lt.mp h
  exact Int.floor_eq_iff.mpr ⟨by linarith only [h1], by linarith only [h2]⟩

theorem abs_sub_mul_le {a b c x y : ℚ} (ha : 0 ≤ a) (hb : 0 ≤ b) (hx : |x| ≤ c) (hy : |y| ≤ c) : |a * x - b * y| ≤ (a + b) * c :=
  calc |a * x - b * y| ≤ a * |x| + b * |y| := (abs_sub _ _).trans_eq (by rw [abs_mul, abs_mul, abs_of_nonneg ha, abs_of_nonneg hb])
    _ ≤ a * c + b * c := by gcongr
    _ = (a + b) * c := by ring

/-- `u`, `v`: the two coordinates in units of their own zone widths. `hD`: the positions are close, i.e. `(n−1)·u − n·v` is a whole number
`k` of turns (`n(n−1)` in these units) plus a small `ε`; `hε`: `ε` and the two rounding errors together stay below 1/2, so that the floor finds
the integer part. -/
theorem cpr_j (N : ℕ) (hN : 0 < N) (n : ℤ) (hn : 2 ≤ n) (u v : ℚ) (k : ℤ) (ε : ℚ)
    (hD : (n - 1 : ℚ) * u - n * v = n * (n - 1) * k + ε)
    (hε : |ε| + (2 * n - 1 : ℚ) / (2 * N) < 1 / 2) :
    let j := ⌊(cprEnc N u : ℚ) / N * (n - 1) - (cprEnc N v : ℚ) / N * n + 1 / 2⌋
    j % n = cprZone N u % n ∧ j % (n - 1) = cprZone N v % (n - 1) := by
  intro j
  have hnq : (2 : ℚ) ≤ n := by exact_mod_cast hn
  obtain ⟨e0, he0, h0⟩ := cprEnc_err N hN u
  obtain ⟨e1, he1, h1⟩ := cprEnc_err N hN v
  have hη : |(n - 1) * e0 - n * e1| ≤ (2 * n - 1) / (2 * N) := by
    rw [show (2 * (n : ℚ) - 1) / (2 * N) = ((n - 1) + n) * (1 / 2 / N) by ring]
    exact abs_sub_mul_le (by linarith only [hnq]) (by linarith only [hnq]) he0 he1
  -- the decoder's quotient is an integer plus `ε` plus the two rounding errors
  have hj : j = n * (n - 1) * k - (n - 1) * cprZone N u + n * cprZone N v := by
    apply floor_add_half_eq
    rw [h0, h1, show (u - cprZone N u + e0) * (n - 1) - (v - cprZone N v + e1) * n
        - (n * (n - 1) * k - (n - 1) * cprZone N u + n * cprZone N v : ℤ) = ε + ((n - 1) * e0 - n * e1) by
      push_cast; linear_combination hD]
    exact (abs_add_le _ _).trans_lt (by linarith only [hη, hε])
  rw [hj]
  constructor
  · rw [show n * (n - 1) * k - (n - 1) * cprZone N u + n * cprZone N v = cprZone N u + n * ((n - 1) * k - cprZone N u + cprZone N v) by ring, Int.add_mul_emod_self_left]
  · rw [show n * (n - 1) * k - (n - 1) * cprZone N u + n * cprZone N v = cprZone N v + (n - 1) * (n * k - cprZone N u + cprZone N v) by ring, Int.add_mul_emod_self_left]

end Adsb.CprCore
