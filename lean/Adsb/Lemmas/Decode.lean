import Adsb.Frame
import Adsb.Lemmas.Attr
/-! # Lemmas for symbolic evaluation of `decode` on a buffer of sufficient length -/

namespace Adsb

/- The rules marked `↓` are tried before `simp` walks into a term: a sub-reader's block is re-associated, a primitive read is
replaced by its length condition and its value put into the rest of the block, and only then is the rest walked. The general
`Res.All_bind_iff` comes last: it is for a sub-reader that is left folded. (The two read rules are ordinary rules as well, for
the first read of a reader that has only just been unfolded.) -/
attribute [res_walk ↓] Res.bind_assoc All_readBits_bind All_skipBits_bind Res.All_ite_iff Res.pure_bind
attribute [res_walk] All_readBits_bind All_skipBits_bind Res.ite_bind Res.err_bind Res.All_pure_iff Res.All_err
attribute [res_walk low] Res.All_bind_iff

theorem modesChecksum_ok (msg : List UInt8) (bits : Nat) (h3 : 3 ≤ bits / 8) (hl : bits / 8 ≤ msg.length) :
    modesChecksum msg bits = .ok (crcVal msg (bits / 8)) := by
  unfold modesChecksum
  have : ¬ (bits / 8 < 3 ∨ msg.length < bits / 8) := by omega
  simp [this]

theorem modesChecksum_short (msg : List UInt8) (bits : Nat) (hl : msg.length < bits / 8) :
    modesChecksum msg bits = .err .incomplete := by
  unfold modesChecksum
  simp [hl]

/-- the checksum only looks at the first `n` bytes -/
theorem crcVal_take (msg : List UInt8) (n k : Nat) (h3 : 3 ≤ n) (hk : n ≤ k) :
    crcVal (msg.take k) n = crcVal msg n := by
  unfold crcVal tail24
  have e1 : (msg.take k).take (n - 3) = msg.take (n - 3) := by
    rw [List.take_take]; congr 1; omega
  have g : ∀ i, i < k → (msg.take k).getD i 0 = msg.getD i 0 := by
    intro i hi
    simp [List.getD_eq_getElem?_getD, hi]
  rw [e1, g (n - 3) (by omega), g (n - 2) (by omega), g (n - 1) (by omega)]

/-- the checksum window when the decoder consumed `hi` bytes and the format needs `bits` bits -/
theorem modesChecksum_take (msg : List UInt8) (bits k : Nat) (h3 : 3 ≤ bits / 8) (hk : bits / 8 ≤ k)
    (hl : bits / 8 ≤ msg.length) : modesChecksum (msg.take k) bits = .ok (crcVal msg (bits / 8)) := by
  rw [modesChecksum_ok _ _ h3 (by rw [List.length_take]; omega), crcVal_take _ _ _ h3 hk]

theorem decode_of_readDF (B : Buf) (df : DF) (s : RS) (h : readDF B RS.init = .ok (df, s)) :
    decode B = (readCrc B df s.hi >>= fun crc => pure { df := df, crc := crc }) := by
  simp [decode, h]

theorem decode_of_readDF_err (B : Buf) (e : Err) (h : readDF B RS.init = .err e) : decode B = .err e := by
  simp [decode, h]

/-! ## `dk`: symbolic evaluation of a reader

`dk` is a `simp only` without a discharger of its own: the side condition of a rule is closed by the same rules. A call names
the length hypothesis as a rewrite rule for the length conditions of the reads: `fits h` at a symbolic position
(`h : bp + N ≤ 8 * B.len`), `fits_lit h` at a literal one (`h : L ≤ B.len`); what remains of a condition is literal arithmetic. -/

theorem fits {bp N L : Nat} (h : bp + N ≤ L) (k : Nat) (hk : k ≤ N) : (bp + k ≤ L) = True := eq_true (by omega)

theorem fits_lit {B : Buf} {L : Nat} (h : L ≤ B.len) :
    (∀ k, k ≤ 8 * L → (k ≤ 8 * B.len) = True) ∧ ∀ k, k ≤ L → (k ≤ B.len) = True :=
  ⟨fun _ _ => eq_true (by omega), fun _ _ => eq_true (by omega)⟩

/-- collapses the running maximum of byte offsets from the same `bp` (`Nat.max_eq_right` does it for numerals) -/
theorem max_max_div_lit (hi bp a b : Nat) (h : a ≤ b) :
    max (max hi ((bp + a) / 8)) ((bp + b) / 8) = max hi ((bp + b) / 8) := by
  rw [Nat.max_assoc, Nat.max_eq_right (Nat.div_le_div_right (Nat.add_le_add_left h bp))]

/-- As a `congr` rule this makes `simp` rewrite the first step of a block and leave the rest alone until `Res.ok_bind` has put
the value in; without it the rest of the block is walked again after every read. The files that use `dk` declare it `local congr`.
It applies only where the first step is rewritten by a lemma (`readBits_ok`, a sub-reader's `_ok`), not where it is unfolded. -/
theorem Res.bind_congr_left {α β} {x x' : Res α} (f : α → Res β) (h : x = x') : x >>= f = x' >>= f := by rw [h]

/-- rewrites each read whose length condition the rules given decide, reduces literal arithmetic and decided `if`s.
In `[...]`: the definitions to unfold, the `_ok` lemmas of sub-readers, `fits h` / `fits_lit h`, hypotheses that decide a test.

Do not hand it a dispatcher (`meBody`, `dfBody`, `meAt`, `dfAt`) at a symbolic code: it would evaluate every branch of the
undecided `if` chain. Decide the code first: `meAt_cases`, `dfAt_cases`, or a literal. -/
macro "dk" "[" ts:Lean.Parser.Tactic.simpLemma,* "]" : tactic =>
  `(tactic| simp only [readBits_ok, readBitsLE_ok, skipBits_ok, seekBack_eq, Res.ok_bind, Res.pure_eq, RS.init, Nat.add_assoc,
      Nat.reduceAdd, Nat.reduceMul, Nat.reduceDiv, Nat.reduceSub, Nat.reduceMod, Nat.reduceEqDiff, Nat.reduceLeDiff,
      max_max_div_lit, Nat.max_eq_right, Nat.add_zero, reduceIte, true_and, not_true_eq_false, ne_eq, $ts,*])

end Adsb
