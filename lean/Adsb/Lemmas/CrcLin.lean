import Adsb.Lemmas.CrcSyn
/-! # The table-driven checksum is bit-serial polynomial division

One step of the loop of `modes_checksum` is `r·x^8 + byte·x^24` modulo g (`crcStep_closed`): the low 16 bits of the
register move up unreduced, and the table entry reduces the top byte together with the input byte. -/

namespace Adsb
open Adsb.Spec

def b2 (r : W) : BitVec 8 := (r >>> 16).setWidth 8
def b1 (r : W) : BitVec 8 := (r >>> 8).setWidth 8
def b0 (r : W) : BitVec 8 := r.setWidth 8

theorem split3 (r : W) : r = ((b2 r).setWidth 24 <<< 16) ^^^ ((b1 r).setWidth 24 <<< 8) ^^^ (b0 r).setWidth 24 := by
  apply BitVec.eq_of_getLsbD_eq
  intro i hi
  simp only [b2, b1, b0, BitVec.getLsbD_xor, BitVec.getLsbD_shiftLeft, BitVec.getLsbD_setWidth, BitVec.getLsbD_ushiftRight]
  rcases (by omega : i < 8 ∨ (8 ≤ i ∧ i < 16) ∨ 16 ≤ i) with h | h | h
  · simp [h, hi, show i < 16 by omega]
  · simp [h, hi, show ¬ i < 8 by omega, show i - 8 < 8 by omega, show i - 8 < 24 by omega, show 8 + (i - 8) = i by omega]
  · simp [hi, show ¬ i < 16 by omega, show ¬ i < 8 by omega, show i - 16 < 8 by omega, show ¬ i - 8 < 8 by omega,
      show i - 16 < 24 by omega, show 16 + (i - 16) = i by omega]

theorem shift8_split (r : W) : r <<< 8 = ((b1 r).setWidth 24 <<< 16) ^^^ ((b0 r).setWidth 24 <<< 8) := by
  have h := congrArg (fun t : W => t <<< 8) (split3 r)
  simp only [BitVec.shiftLeft_xor_distrib, ← BitVec.shiftLeft_add] at h
  rw [h, BitVec.shiftLeft_eq_zero (by decide), BitVec.zero_xor]

theorem mulXn_byte (k : Nat) (h : k ≤ 16) (x : BitVec 8) : mulXn k (x.setWidth 24) = x.setWidth 24 <<< k := by
  apply mulXn_small
  have hx : (x.setWidth 24).toNat < 2 ^ 8 := by rw [BitVec.toNat_setWidth]; omega
  calc _ < 2 ^ 8 * 2 ^ k := Nat.mul_lt_mul_of_pos_right hx (Nat.two_pow_pos k)
    _ ≤ 2 ^ 8 * 2 ^ 16 := Nat.mul_le_mul_left _ (Nat.pow_le_pow_right (by decide) h)

/-- multiplication by x^8: the low 16 bits move up, the top byte is reduced -/
theorem mulXn_8 (r : W) : mulXn 8 r = (r <<< 8) ^^^ mulXn 24 ((b2 r).setWidth 24) := by
  rw [shift8_split]
  conv => lhs; rw [split3 r]
  rw [mulXn_xor, mulXn_xor, ← mulXn_byte 16 (by decide), ← mulXn_byte 8 (by decide), ← mulXn_add, ← mulXn_add,
    mulXn_byte 16 (by decide), mulXn_byte 8 (by decide), BitVec.xor_assoc, BitVec.xor_comm]

/-- the bits of a byte, most significant first -/
def byteBits (b : UInt8) : List Bool := (List.range 8).map (fun i => b.toBitVec.getMsbD i)
def bitsOf (msg : List UInt8) : List Bool := msg.flatMap byteBits

theorem byteBits_length (b : UInt8) : (byteBits b).length = 8 := by simp [byteBits]

theorem bitsOf_cons (b : UInt8) (l : List UInt8) : bitsOf (b :: l) = byteBits b ++ bitsOf l := List.flatMap_cons ..
theorem bitsOf_append (a b : List UInt8) : bitsOf (a ++ b) = bitsOf a ++ bitsOf b := List.flatMap_append ..

theorem bitsOf_length (l : List UInt8) : (bitsOf l).length = 8 * l.length := by
  induction l with
  | nil => rfl
  | cons b t ih => rw [bitsOf_cons, List.length_append, ih, byteBits_length, List.length_cons, Nat.mul_succ, Nat.add_comm]

theorem syndrome_byte : ∀ x : BitVec 8, syndrome (byteBits ⟨x⟩) = x.setWidth 24 := by decide +kernel

theorem syndrome_bitsOf_cons (b : UInt8) (l : List UInt8) :
    syndrome (bitsOf (b :: l)) = mulXn (8 * l.length) (b.toBitVec.setWidth 24) ^^^ syndrome (bitsOf l) := by
  rw [bitsOf_cons, syndrome_append, syndrome_byte b.toBitVec, bitsOf_length]

/-- the generated `CRC_TABLE` holds the remainders of i·x^24 (all 256 entries, kernel computation) -/
theorem table_correct : ∀ i : BitVec 8, tableBV i = parity (byteBits ⟨i⟩) := by decide +kernel

/-- **the loop body of `modes_checksum` multiplies the register by x^8 and adds the byte times x^24** -/
theorem crcStep_closed (r : W) (b : UInt8) : crcStep r b = mulXn 8 r ^^^ mulXn 24 (b.toBitVec.setWidth 24) := by
  have ht (i : BitVec 8) : tableBV i = mulXn 24 (i.setWidth 24) := by
    rw [table_correct, parity_eq, syndrome_byte]
  rw [crcStep, ht, mulXn_8, BitVec.setWidth_xor, mulXn_xor, BitVec.xor_assoc, BitVec.xor_comm (mulXn 24 _)]
  rfl

theorem bitStep_lin (r s : W) (a b : Bool) : bitStep (r ^^^ s) (a != b) = bitStep r a ^^^ bitStep s b := by
  unfold bitStep
  rw [mulX_xor, ite_xor]
  exact xor_xor_xor_comm ..

theorem crcStep_lin (r s : W) (a b : UInt8) : crcStep (r ^^^ s) (a ^^^ b) = crcStep r a ^^^ crcStep s b := by
  simp only [crcStep_closed, UInt8.toBitVec_xor, BitVec.setWidth_xor, mulXn_xor]
  exact xor_xor_xor_comm ..

theorem fold_crcStep (msg : List UInt8) (r : W) :
    msg.foldl crcStep r = mulXn (8 * msg.length) r ^^^ mulXn 24 (syndrome (bitsOf msg)) := by
  induction msg generalizing r with
  | nil => rw [show syndrome (bitsOf []) = 0 from rfl, mulXn_zero, xor_zero]; rfl
  | cons b t ih =>
    rw [List.foldl_cons, ih, crcStep_closed, syndrome_bitsOf_cons, List.length_cons, Nat.mul_succ, mulXn_xor, mulXn_xor,
      ← mulXn_add, ← mulXn_add, ← mulXn_add, Nat.add_comm 24, BitVec.xor_assoc]

theorem crcRem_eq (msg : List UInt8) : crcRem msg = mulXn 24 (syndrome (bitsOf msg)) := by
  rw [crcRem, fold_crcStep, mulXn_zero, zero_xor]

/-- the table-driven remainder equals bit-serial division of the message by the generator -/
theorem crcRem_eq_parity (msg : List UInt8) : crcRem msg = parity (bitsOf msg) := by
  rw [crcRem_eq, parity_eq]

end Adsb
