/-! # A bounded-∀ checker the kernel can evaluate on a few thousand cases

`decide` on `∀ x : Fin 8192, …` overflows the kernel's recursion depth; splitting the range in
halves keeps the depth logarithmic. -/

namespace Adsb

/-- `p` holds on `[lo, lo+len)`; `fuel` bounds the splitting depth -/
def allRange (p : Nat → Bool) (lo len : Nat) : Nat → Bool
  | 0 => false
  | fuel + 1 =>
    if len = 0 then true
    else if len = 1 then p lo
    else
      let h := len / 2
      allRange p lo h fuel && allRange p (lo + h) (len - h) fuel

theorem allRange_sound (p : Nat → Bool) (fuel : Nat) : ∀ lo len, allRange p lo len fuel = true →
    ∀ x, lo ≤ x → x < lo + len → p x = true := by
  induction fuel with
  | zero => intro lo len h; simp [allRange] at h
  | succ fuel ih =>
    intro lo len h x hlo hhi
    unfold allRange at h
    by_cases h0 : len = 0
    · omega
    · by_cases h1 : len = 1
      · simp [h1] at h
        have : x = lo := by omega
        rw [this]; exact h
      · simp [h0, h1] at h
        obtain ⟨ha, hb⟩ := h
        by_cases hx : x < lo + len / 2
        · exact ih lo (len / 2) ha x hlo hx
        · exact ih (lo + len / 2) (len - len / 2) hb x (by omega) (by omega)

/-- converse of `allRange_sound`: `fuel + 1` levels of halving reach every range of at most `2 ^ fuel` numbers -/
theorem allRange_complete (p : Nat → Bool) (fuel : Nat) : ∀ lo len, len ≤ 2 ^ fuel →
    (∀ x, lo ≤ x → x < lo + len → p x = true) → allRange p lo len (fuel + 1) = true := by
  induction fuel with
  | zero =>
    intro lo len hl h
    obtain rfl | rfl : len = 0 ∨ len = 1 := by omega
    · rfl
    · exact h lo (Nat.le_refl _) (Nat.lt_succ_self _)
  | succ fuel ih =>
    intro lo len hl h
    rw [allRange]
    split
    · rfl
    · split
      · exact h lo (Nat.le_refl _) (by omega)
      · rw [Nat.pow_succ] at hl
        simp only [Bool.and_eq_true]
        exact ⟨ih lo (len / 2) (by omega) (fun x h1 h2 => h x h1 (by omega)),
               ih (lo + len / 2) (len - len / 2) (by omega) (fun x h1 h2 => h x (by omega) (by omega))⟩

theorem allBelow_sound (p : Nat → Bool) (n fuel : Nat) (h : allRange p 0 n fuel = true) :
    ∀ x, x < n → p x = true := fun x hx => allRange_sound p fuel 0 n h x (Nat.zero_le _) (by omega)

end Adsb
