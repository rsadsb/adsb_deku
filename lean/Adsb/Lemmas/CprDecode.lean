import Adsb.Cpr
import Adsb.Theorems.C05
import Adsb.Lemmas.CprCore
import Adsb.Lemmas.Attr
/-! # CPR global decoding in exact arithmetic: normal form of the decoder, the encoder it is measured against, correctness per coordinate

The exact (`Rat`) instance of `get_position` in mathematical normal form (`decPair`, built from one coordinate decoder `decCoord`:
the latitude part is the longitude part with 60 zones and the wrap limit 270); the DO-260B encoder (`dlat` … `rlon`, `encode`) and the
closeness condition `lonClose`, which are the specification side of the theorems of `Theorems/C05b` and are trusted as a transcription
of DO-260B 2.2.3.2.3.7; the correctness of the coordinate decoder (`zone_index`: the decoder's index is right in both grids, from `cpr_j`;
`coord_of_zone`: what follows from a right index, in either grid; `decCoord_correct`: the two cases of the order); and the evaluation of
the `cpr_nl` statement tree as a table lookup. `131072 = 2^17` is the number of bins per zone (`Gen.cprMax`, tied in `latPair_rat`). -/

namespace Adsb.CprDecode
open Adsb.CprCore Adsb.C05

theorem add_rat (a b : ℚ) : @HAdd.hAdd ℚ ℚ ℚ (@instHAdd ℚ NumOps.instAdd) a b = a + b := rfl
@[cpr_rat] theorem sub_rat (a b : ℚ) : @HSub.hSub ℚ ℚ ℚ (@instHSub ℚ NumOps.instSub) a b = a - b := rfl
@[cpr_rat] theorem mul_rat (a b : ℚ) : @HMul.hMul ℚ ℚ ℚ (@instHMul ℚ NumOps.instMul) a b = a * b := rfl
@[cpr_rat] theorem div_rat (a b : ℚ) : @HDiv.hDiv ℚ ℚ ℚ (@instHDiv ℚ NumOps.instDiv) a b = a / b := rfl
@[cpr_rat] theorem nOf_rat (n : ℕ) : (nOf n : ℚ) = (n : ℚ) := rfl
@[cpr_rat] theorem floor_rat (q : ℚ) : (NumOps.floor q : ℚ) = ((⌊q⌋ : ℤ) : ℚ) := rfl
@[cpr_rat] theorem leb_rat (a b : ℚ) : NumOps.leb a b = decide (a ≤ b) := rfl
@[cpr_rat] theorem ltb_rat (a b : ℚ) : NumOps.ltb a b = decide (a < b) := rfl
theorem half_rat : (NumOps.half : ℚ) = 1 / 2 := rfl
@[cpr_rat] theorem negOf_rat (x : ℚ) : negOf x = -x := by unfold negOf; rw [sub_rat, nOf_rat]; simp
attribute [cpr_rat] add_rat half_rat

theorem pmod_int (m : ℤ) (n : ℕ) : pmod (m : ℚ) (n : ℚ) = ((m % (n : ℤ) : ℤ) : ℚ) := by
  unfold pmod
  rw [sub_rat, mul_rat, div_rat, floor_rat, Rat.floor_intCast_div_natCast, Int.emod_def]; push_cast; ring

/-- `CPR_MAX` = 2^17 -/
def Nq : ℚ := 131072
/-- `if x >= lim { x - 360.0 }`: latitudes wrap at 270, longitudes at 180 -/
def wrap (lim x : ℚ) : ℚ := if lim ≤ x then x - 360 else x
/-- the latitude test of `get_position` -/
def inR (x : ℚ) : Prop := -90 ≤ x ∧ x ≤ 90
instance (x : ℚ) : Decidable (inR x) := by unfold inR; infer_instance

theorem wrap_spec (lim w : ℚ) (h0 : 0 ≤ lim) (h1 : lim ≤ 360) (hw0 : 0 ≤ w) (hw1 : w < 360) :
    (∃ k : ℤ, wrap lim w = w + 360 * k) ∧ lim - 360 ≤ wrap lim w ∧ wrap lim w < lim := by
  unfold wrap; split
  · exact ⟨⟨-1, by push_cast; ring⟩, by linarith, by linarith⟩
  · exact ⟨⟨0, by simp⟩, by linarith, by linarith⟩

/-- the decoder's last step: zone `z mod ni` plus a fraction of a zone, in degrees and wrapped at `lim`, is the unreduced value
modulo 360° (`z / ni` turns lie between them), in `[lim − 360, lim)` -/
theorem wrap_zone (lim : ℚ) (h0 : 0 ≤ lim) (h1 : lim ≤ 360) (ni : ℕ) (hni : (0 : ℚ) < ni) (z : ℤ) (f : ℚ) (hf0 : 0 ≤ f) (hf1 : f < 1) :
    let q := wrap lim (360 / (ni : ℚ) * (((z % (ni : ℤ) : ℤ) : ℚ) + f))
    (∃ k : ℤ, q = 360 / (ni : ℚ) * ((z : ℚ) + f) + 360 * k) ∧ lim - 360 ≤ q ∧ q < lim := by
  have hniz : (0 : ℤ) < ni := by exact_mod_cast hni
  have r0 : (0 : ℚ) ≤ ((z % (ni : ℤ) : ℤ) : ℚ) := by exact_mod_cast Int.emod_nonneg z hniz.ne'
  have r1 : ((z % (ni : ℤ) : ℤ) : ℚ) + 1 ≤ (ni : ℚ) := by exact_mod_cast Int.emod_lt_of_pos z hniz
  obtain ⟨⟨k, hk⟩, hr⟩ := wrap_spec lim (360 / (ni : ℚ) * (((z % (ni : ℤ) : ℤ) : ℚ) + f)) h0 h1 (by positivity)
    (by rw [div_mul_eq_mul_div, div_lt_iff₀ hni]; linarith only [r1, hf1])
  have e : 360 / (ni : ℚ) * ni = 360 := div_mul_cancel₀ _ hni.ne'
  exact ⟨⟨k - z / (ni : ℤ), by rw [hk, Int.emod_def]; push_cast; linear_combination (-((z / (ni : ℤ) : ℤ) : ℚ)) * e⟩, hr⟩

/-- `max(NL − i, 1)`: the number of longitude zones of format `i` at a latitude with `NL = nl` -/
def nZones (i nl : ℕ) : ℕ := max (nl - i) 1

theorem nZones_pos (i nl : ℕ) : (0 : ℚ) < nZones i nl := by
  unfold nZones; exact_mod_cast (by omega : 0 < max (nl - i) 1)

theorem nZones_of_lt {i nl : ℕ} (h : i < nl) : nZones i nl = nl - i := by unfold nZones; omega

theorem nZones_of_le {i nl : ℕ} (h : nl ≤ i + 1) : nZones i nl = 1 := by unfold nZones; omega

theorem nZones_cast {R : Type*} [AddGroupWithOne R] {i nl : ℕ} (h : i < nl) : ((nZones i nl : ℕ) : R) = nl - i := by
  rw [nZones_of_lt h, Nat.cast_sub h.le]

/-- one coordinate of the decoder (`get_lat_lon`; the latitude part of `get_position` is the case of 60 zones, wrapped at 270):
`nl` zones in the even grid, `ce`, `co` the transmitted fractions, `odd`: the odd report is the latest -/
def decCoord (lim : ℚ) (nl : ℕ) (ce co : ℚ) (odd : Bool) : ℚ :=
  let ni : ℕ := max (nl - (if odd then 1 else 0)) 1
  let m : ℤ := ⌊ce * ((nl - 1 : ℕ) : ℚ) - co * (nl : ℚ) + 1/2⌋
  wrap lim (360 / (ni : ℚ) * (((m % (ni : ℤ) : ℤ) : ℚ) + (if odd then co else ce)))

theorem decCoord_range (lim : ℚ) (h0 : 0 ≤ lim) (h1 : lim ≤ 360) (nl : ℕ) (ce co : ℚ) (odd : Bool)
    (hc : 0 ≤ (if odd then co else ce) ∧ (if odd then co else ce) < 1) :
    lim - 360 ≤ decCoord lim nl ce co odd ∧ decCoord lim nl ce co odd < lim :=
  (wrap_zone lim h0 h1 (nZones (if odd then 1 else 0) nl) (nZones_pos _ nl)
    ⌊ce * ((nl - 1 : ℕ) : ℚ) - co * (nl : ℚ) + 1/2⌋ _ hc.1 hc.2).2

theorem latPair_rat (ye yo : ℕ) :
    latPair (α := ℚ) ye yo = (decCoord 270 60 (ye / Nq) (yo / Nq) false, decCoord 270 60 (ye / Nq) (yo / Nq) true) := by
  simp only [latPair, decCoord, wrap, Nq, cpr_rat, pmod_int, Gen.cprMax, Gen.nz]
  -- numerals afterwards (`pmod_int` wants them as casts); the model writes the products in the other order
  simp only [decide_eq_true_eq, mul_comm, Bool.false_eq_true, if_false, if_true, Nat.reduceMul, Nat.reduceSub,
    Nat.one_le_ofNat, max_eq_left, Nat.cast_ofNat]

theorem getLatLon_rat (lat le lo : ℚ) (b : Bool) : getLatLon lat le lo b = (lat, decCoord 180 (cprNl lat) le lo b) := by
  simp only [getLatLon, decCoord, wrap, cpr_rat, pmod_int, decide_eq_true_eq, Nat.cast_ofNat]

theorem inRange_rat (x : ℚ) : inRange x = decide (inR x) := by
  simp only [inRange, inR, cpr_rat, ← Bool.decide_and, Nat.cast_ofNat]

/-- what `get_position` computes from the even report `(ye, xe)` and the odd report `(yo, xo)`; `odd`: the odd one is the latest -/
def decPair (ye xe yo xo : ℕ) (odd : Bool) : Option (Position ℚ) :=
  let l0 := decCoord 270 60 (ye / Nq) (yo / Nq) false
  let l1 := decCoord 270 60 (ye / Nq) (yo / Nq) true
  if ¬ (inR l0 ∧ inR l1) then none
  else if cprNl l0 ≠ cprNl l1 then none
  else
    let lat := if odd then l1 else l0
    some ⟨lat, decCoord 180 (cprNl lat) (xe / Nq) (xo / Nq) odd⟩

theorem getPosition_rat (a b : Alt) : getPosition (α := ℚ) a b =
    if a.f = b.f then none else
    decPair (if a.f = 0 then a else b).lat (if a.f = 0 then a else b).lon (if a.f = 0 then b else a).lat (if a.f = 0 then b else a).lon (b.f != 0) := by
  unfold getPosition decPair
  simp only [latPair_rat, getLatLon_rat, inRange_rat, div_rat, nOf_rat, Gen.cprMax, Nq, Nat.cast_ofNat, Bool.not_eq_true',
    Bool.and_eq_false_iff, decide_eq_false_iff_not, bne_iff_ne, ne_eq, not_and_or]

/-- the one place where the two orders are told apart -/
theorem getPosition_order (E O : Alt) (hE : E.f = 0) (hO : O.f = 1) (odd : Bool) :
    getPosition (α := ℚ) (if odd then E else O) (if odd then O else E) = decPair E.lat E.lon O.lat O.lon odd := by
  rw [getPosition_rat]; cases odd <;> simp [hE, hO]

theorem decPair_range (ye xe yo xo : ℕ) (odd : Bool) (hx : (if odd then xo else xe) < 131072) (q : Position ℚ)
    (h : decPair ye xe yo xo odd = some q) : (-90 ≤ q.lat ∧ q.lat ≤ 90) ∧ -180 ≤ q.lon ∧ q.lon < 180 := by
  have hc : 0 ≤ (if odd then (xo : ℚ) / Nq else xe / Nq) ∧ (if odd then (xo : ℚ) / Nq else xe / Nq) < 1 := by
    unfold Nq; cases odd <;> exact ⟨by positivity, (div_lt_one (by norm_num)).2 (by exact_mod_cast hx)⟩
  have hL := fun n => decCoord_range 180 (by norm_num) (by norm_num) n _ _ odd hc
  norm_num only at hL
  simp only [decPair] at h
  split_ifs at h with hr hn ho <;> cases h
  exacts [⟨hr.2, hL _⟩, ⟨hr.1, hL _⟩]

/-! ## the encoder (DO-260B 2.2.3.2.3.7), in exact arithmetic -/
def dlat (i : ℕ) : ℚ := 360 / ((60 - i : ℕ) : ℚ)
def gridLat (i : ℕ) (φ : ℚ) : ℤ := gridIx 131072 (φ / dlat i)
def yz (i : ℕ) (φ : ℚ) : ℕ := (gridLat i φ % 131072).toNat
def rlat (i : ℕ) (φ : ℚ) : ℚ := dlat i * ((gridLat i φ : ℤ) : ℚ) / 131072
def gridLon (i nl : ℕ) (l : ℚ) : ℤ := gridIx 131072 (l * (nZones i nl : ℚ) / 360)
def xz (i nl : ℕ) (l : ℚ) : ℕ := (gridLon i nl l % 131072).toNat
def rlon (i nl : ℕ) (l : ℚ) : ℚ := 360 / (nZones i nl : ℚ) * ((gridLon i nl l : ℤ) : ℚ) / 131072
/-- the DO-260B encoder: format `i` (0 even, 1 odd) report of the position `(φ, l)` (degrees) -/
def encode (i : ℕ) (φ l : ℚ) (base : Alt) : Alt :=
  { base with f := i, lat := yz i φ, lon := xz i (cprNl (rlat i φ)) l }
/-- the two longitudes are close enough for the zone index to be recovered: their distance (modulo 360°), in units of the difference
of the two zone widths, stays below 1/2 with room for the two roundings (each at most half a bin, `1 / 262144` of a zone) -/
def lonClose (nl : ℕ) (le lo : ℚ) : Prop :=
  nl ≤ 1 ∨ ∃ k : ℤ, |(nl : ℚ) * ((nl : ℚ) - 1) * (le - lo - 360 * k) / 360| + (2 * (nl : ℚ) - 1) / 262144 < 1 / 2

theorem dlat_zero : dlat 0 = 6 := by norm_num [dlat]
theorem dlat_one : dlat 1 = 360 / 59 := by norm_num [dlat]

/-! latitude is the longitude construction with 60 zones -/
theorem dlat_eq (i : ℕ) (hi : i ≤ 1) : dlat i = 360 / (nZones i 60 : ℚ) := by
  unfold dlat; rw [nZones_of_lt (by omega)]
theorem gridLat_eq (i : ℕ) (hi : i ≤ 1) (φ : ℚ) : gridLat i φ = gridLon i 60 φ := by
  unfold gridLat gridLon; rw [dlat_eq i hi, div_div_eq_mul_div]
theorem yz_eq (i : ℕ) (hi : i ≤ 1) (φ : ℚ) : yz i φ = xz i 60 φ := by
  unfold yz xz; rw [gridLat_eq i hi]
theorem rlat_eq (i : ℕ) (hi : i ≤ 1) (φ : ℚ) : rlat i φ = rlon i 60 φ := by
  unfold rlat rlon; rw [gridLat_eq i hi, dlat_eq i hi]

/-- the transmitted fraction, as the decoder forms it -/
theorem xz_frac (i nl : ℕ) (l : ℚ) :
    ((xz i nl l : ℕ) : ℚ) / Nq = ((cprEnc 131072 (l * (nZones i nl : ℚ) / 360) : ℤ) : ℚ) / ((131072 : ℕ) : ℚ) := by
  unfold xz gridLon Nq
  rw [← Int.cast_natCast, Int.toNat_of_nonneg (Int.emod_nonneg _ (by norm_num))]; rfl

/-- the zone of grid `i` in which the rounded longitude lies -/
def lonZone (i nl : ℕ) (l : ℚ) : ℤ := cprZone 131072 (l * (nZones i nl : ℚ) / 360)

/-- the rounded longitude is its zone plus the transmitted fraction of a zone -/
theorem rlon_eq (i nl : ℕ) (l : ℚ) : rlon i nl l = 360 / (nZones i nl : ℚ) * ((lonZone i nl l : ℚ) + (xz i nl l : ℕ) / Nq) := by
  rw [xz_frac]; unfold rlon gridLon lonZone
  rw [gridIx_decomp]; push_cast; ring

theorem rlon_close (i nl : ℕ) (l : ℚ) : |rlon i nl l - l| ≤ 360 / (nZones i nl : ℚ) / 262144 := by
  have hn := nZones_pos i nl
  calc |rlon i nl l - l|
      = 360 / (nZones i nl : ℚ) / 131072 * |((gridLon i nl l : ℤ) : ℚ) - (131072 : ℕ) * (l * (nZones i nl : ℚ) / 360)| := by
        rw [← abs_of_pos (show (0 : ℚ) < 360 / (nZones i nl : ℚ) / 131072 by positivity), ← abs_mul]
        congr 1; unfold rlon; push_cast; field_simp
    _ ≤ 360 / (nZones i nl : ℚ) / 131072 * (1 / 2) := by gcongr; exact gridIx_close 131072 _
    _ = 360 / (nZones i nl : ℚ) / 262144 := by ring

theorem rlon_mono (i nl : ℕ) {x y : ℚ} (h : x ≤ y) : rlon i nl x ≤ rlon i nl y := by
  have hn := nZones_pos i nl
  unfold rlon gridLon
  gcongr
  exact gridIx_mono _ (by gcongr)

/-- rounding a point of the grid, or any point a whole number of turns away from it -/
theorem gridLon_grid (i nl : ℕ) (G k : ℤ) :
    gridLon i nl (360 / (nZones i nl : ℚ) * G / 131072 + 360 * k) = G + (131072 : ℤ) * ((nZones i nl : ℤ) * k) := by
  have hn := (nZones_pos i nl).ne'
  unfold gridLon
  rw [show (360 / (nZones i nl : ℚ) * G / 131072 + 360 * k) * (nZones i nl : ℚ) / 360
      = ((G + (131072 : ℤ) * ((nZones i nl : ℤ) * k) : ℤ) : ℚ) / ((131072 : ℕ) : ℚ) by push_cast; field_simp,
    gridIx_grid 131072 (by norm_num)]

/-- re-encoding: the rounded coordinate, and any point whole turns away from it, lies on the same grid point up to whole turns -/
theorem gridLon_rlon (i nl : ℕ) (l : ℚ) (k : ℤ) :
    gridLon i nl (rlon i nl l + 360 * k) = gridLon i nl l + (131072 : ℤ) * ((nZones i nl : ℤ) * k) :=
  gridLon_grid i nl _ k

/-- the multiples of 90° are points of every grid: a quarter turn is `nZones / 4` zones, `131072 / 4 = 32768` bins each -/
theorem rlon_quarter (i nl : ℕ) (s : ℤ) : rlon i nl (s * 90) = s * 90 := by
  have hn := (nZones_pos i nl).ne'
  have e : (s : ℚ) * 90 = 360 / (nZones i nl : ℚ) * ((s * (nZones i nl : ℤ) * 32768 : ℤ) : ℚ) / 131072 + 360 * ((0 : ℤ) : ℚ) := by
    push_cast; field_simp; ring
  unfold rlon; rw [e, gridLon_grid]; simp

theorem rlat_bounds (i : ℕ) (hi : i ≤ 1) (φ : ℚ) (h : -90 ≤ φ ∧ φ ≤ 90) : -90 ≤ rlat i φ ∧ rlat i φ ≤ 90 := by
  have q1 : rlon i 60 (-90) = -90 := by simpa using rlon_quarter i 60 (-1)
  have q2 : rlon i 60 90 = 90 := by simpa using rlon_quarter i 60 1
  rw [rlat_eq i hi]
  exact ⟨q1.symm.trans_le (rlon_mono i 60 h.1), (rlon_mono i 60 h.2).trans_eq q2⟩

/-- the zone index found by the decoder is right modulo the number of zones, in both grids (`cpr_j`) -/
theorem zone_index (nl : ℕ) (le lo : ℚ) (h : lonClose nl le lo) :
    let m := ⌊((xz 0 nl le : ℕ) / Nq) * ((nl - 1 : ℕ) : ℚ) - ((xz 1 nl lo : ℕ) / Nq) * (nl : ℚ) + 1 / 2⌋
    m % (nZones 0 nl : ℤ) = lonZone 0 nl le % (nZones 0 nl : ℤ) ∧ m % (nZones 1 nl : ℤ) = lonZone 1 nl lo % (nZones 1 nl : ℤ) := by
  by_cases hnl : 2 ≤ nl
  · obtain ⟨k, hk⟩ := h.resolve_left (by omega)
    have h0 : 0 < nl := by omega
    have h1 : 1 < nl := by omega
    have hj := cpr_j 131072 (by norm_num) (nl : ℤ) (by exact_mod_cast hnl) (le * (nZones 0 nl : ℚ) / 360) (lo * (nZones 1 nl : ℚ) / 360) k
      ((nl : ℚ) * ((nl : ℚ) - 1) * (le - lo - 360 * k) / 360)
      (by rw [nZones_cast h0, nZones_cast h1]; push_cast; ring)
      (by rw [Int.cast_natCast, show (2 : ℚ) * ((131072 : ℕ) : ℚ) = 262144 by norm_num]; exact hk)
    simpa only [lonZone, xz_frac, nZones_cast h0, nZones_cast h1, Nat.cast_sub h1.le, Nat.cast_zero, Nat.cast_one, sub_zero, Int.cast_natCast] using hj
  · rw [nZones_of_le (by omega : nl ≤ 0 + 1), nZones_of_le (by omega : nl ≤ 1 + 1)]; simp

/-- from a zone index that is right modulo the number of zones of grid `i`, the decoder's formula yields the rounded coordinate,
modulo 360°, in `[lim − 360, lim)` -/
theorem coord_of_zone (lim : ℚ) (h0 : 0 ≤ lim) (h1 : lim ≤ 360) (i nl : ℕ) (x : ℚ) (m : ℤ)
    (hm : m % (nZones i nl : ℤ) = lonZone i nl x % (nZones i nl : ℤ)) :
    let q := wrap lim (360 / (nZones i nl : ℚ) * (((m % (nZones i nl : ℤ) : ℤ) : ℚ) + (xz i nl x : ℕ) / Nq))
    (∃ k : ℤ, q = rlon i nl x + 360 * k) ∧ lim - 360 ≤ q ∧ q < lim := by
  obtain ⟨f0, f1⟩ := cprEnc_range 131072 (by norm_num) (x * (nZones i nl : ℚ) / 360)
  rw [← xz_frac] at f0 f1
  rw [hm, rlon_eq]
  exact wrap_zone lim h0 h1 _ (nZones_pos i nl) _ _ f0 f1

/-- **a coordinate is decoded to the latest report's rounded coordinate, modulo 360°, into `[lim − 360, lim)`** -/
theorem decCoord_correct (lim : ℚ) (h0 : 0 ≤ lim) (h1 : lim ≤ 360) (nl : ℕ) (le lo : ℚ) (h : lonClose nl le lo) (odd : Bool) :
    let q := decCoord lim nl ((xz 0 nl le : ℕ) / Nq) ((xz 1 nl lo : ℕ) / Nq) odd
    (∃ k : ℤ, q = rlon (if odd then 1 else 0) nl (if odd then lo else le) + 360 * k) ∧ lim - 360 ≤ q ∧ q < lim := by
  obtain ⟨z0, z1⟩ := zone_index nl le lo h
  cases odd
  · exact coord_of_zone lim h0 h1 0 nl le _ z0
  · exact coord_of_zone lim h0 h1 1 nl lo _ z1

/-- two numbers of one window of 360° that differ by whole turns are equal -/
theorem eq_of_turns {a b lim : ℚ} {k : ℤ} (h : a = b + 360 * k) (ha : lim - 360 ≤ a ∧ a < lim) (hb : lim - 360 ≤ b ∧ b < lim) : a = b := by
  have : |(k : ℚ)| < 1 := abs_lt.mpr ⟨by linarith only [h, ha.1, hb.2], by linarith only [h, ha.2, hb.1]⟩
  obtain rfl : k = 0 := Int.abs_lt_one_iff.mp (by exact_mod_cast this)
  simpa using h

/-- latitude: 60 zones, and a value in [-90, 270) congruent to a latitude is that latitude. `1/20`° of latitude is 3 NM; in units of the
difference of the two zone widths (6° and 360/59°) it is `59/6 · 1/20 < 1/2 − 119/262144`, which is `lonClose 60`. -/
theorem decLat_correct (φe φo : ℚ) (he : -90 ≤ φe ∧ φe ≤ 90) (ho : -90 ≤ φo ∧ φo ≤ 90) (hd : |φe - φo| ≤ 1 / 20) (odd : Bool) :
    decCoord 270 60 ((yz 0 φe : ℕ) / Nq) ((yz 1 φo : ℕ) / Nq) odd = if odd then rlat 1 φo else rlat 0 φe := by
  have hc : lonClose 60 φe φo := Or.inr ⟨0, by
    rw [show ((60 : ℕ) : ℚ) * (((60 : ℕ) : ℚ) - 1) * (φe - φo - 360 * ((0 : ℤ) : ℚ)) / 360 = 59 / 6 * (φe - φo) by push_cast; ring,
      abs_mul]; norm_num; linarith only [hd]⟩
  obtain ⟨⟨k, hk⟩, r⟩ := decCoord_correct 270 (by norm_num) (by norm_num) 60 φe φo hc odd
  rw [← yz_eq 0 (by norm_num), ← yz_eq 1 (by norm_num)] at hk r
  have hb : inR (if odd then rlat 1 φo else rlat 0 φe) := by
    split; exacts [rlat_bounds 1 le_rfl φo ho, rlat_bounds 0 zero_le_one φe he]
  have e : rlon (if odd then 1 else 0) 60 (if odd then φo else φe) = if odd then rlat 1 φo else rlat 0 φe := by
    cases odd <;> simp [rlat_eq]
  rw [e] at hk
  exact eq_of_turns (lim := 270) hk r ⟨by linarith only [hb.1], by linarith only [hb.2]⟩

/-! ## the `cpr_nl` statement tree as a table lookup -/
def sat (bound : Option Nat) (a : ℚ) : Prop := ∀ b, bound = some b → a < (b : ℚ) / 100000000

def evalFlat : List (Option Nat × Nat) → ℚ → Option Nat
  | [], _ => none
  | (none, n) :: _, _ => some n
  | (some t, n) :: rest, a => if a < (t : ℚ) / 100000000 then some n else evalFlat rest a

theorem evalFlat_append (l1 l2 : List (Option Nat × Nat)) (a : ℚ) :
    evalFlat (l1 ++ l2) a = match evalFlat l1 a with | some n => some n | none => evalFlat l2 a := by
  induction l1 with
  | nil => rfl
  | cons e rest ih =>
    obtain ⟨b, n⟩ := e
    cases b with
    | none => rfl
    | some t => simp only [List.cons_append, evalFlat]; split <;> simp [ih]

theorem ofScaled_rat (n : ℕ) : (NumOps.ofScaled n : ℚ) = (n : ℚ) / 100000000 := rfl

theorem sat_min (thr : Nat) (bound : Option Nat) (a : ℚ) :
    sat (some (tighten thr bound)) a ↔ (a < (thr : ℚ) / 100000000 ∧ sat bound a) := by
  unfold sat tighten
  cases bound with
  | none => simp
  | some b =>
    simp only [Option.some.injEq, forall_eq']
    rw [Nat.cast_min, ← min_div_div_right (by norm_num), lt_min_iff]

open Classical in
mutual
theorem nlStmts_flat (ss : List Gen.NlStmt) (bound : Option Nat) (a : ℚ) :
    evalFlat (flattenStmts ss bound) a = if sat bound a then nlStmts ss a else none := by
  match ss with
  | [] => simp [flattenStmts, nlStmts, evalFlat]
  | s :: rest =>
    simp only [flattenStmts, nlStmts]
    rw [evalFlat_append, nlStmt_flat s bound a, nlStmts_flat rest bound a]
    by_cases h : sat bound a <;> simp [h]
    cases nlStmt s a <;> rfl
theorem nlStmt_flat (s : Gen.NlStmt) (bound : Option Nat) (a : ℚ) :
    evalFlat (flattenStmt s bound) a = if sat bound a then nlStmt s a else none := by
  match s with
  | .ret n =>
    simp only [flattenStmt, nlStmt]
    cases bound with
    | none => simp [evalFlat, sat]
    | some b => simp [evalFlat, sat]
  | .ite thr body =>
    simp only [flattenStmt, nlStmt]
    rw [nlStmts_flat body _ a, ltb_rat, ofScaled_rat]
    simp only [sat_min, decide_eq_true_eq]
    by_cases h1 : a < (thr : ℚ) / 100000000 <;> by_cases h2 : sat bound a <;> simp [h1, h2]
end

theorem evalFlat_chain (l : List (Option Nat × Nat)) (a : ℚ) :
    (evalFlat l a).getD 1 = chainNl (chainOf l).1 (chainOf l).2 a := by
  induction l with
  | nil => rfl
  | cons e rest ih =>
    obtain ⟨b, n⟩ := e
    cases b with
    | none => rfl
    | some t =>
      simp only [evalFlat, chainOf, chainNl]
      split
      · rfl
      · exact ih

end Adsb.CprDecode
