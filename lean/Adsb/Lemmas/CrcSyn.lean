import Adsb.Crc
import Adsb.Spec.Poly
/-! # Division by the generator in closed form

`mulXn k` is multiplication by x^k modulo g: GF(2)-linear, a plain shift below degree 24, injective. Reading bits `l` into
a register holding `r` gives `r·x^|l| + syndrome l`; a string of at most 24 bits is its own remainder; and the
message·x^24 division (`parity`) runs in lock step with plain division. -/

namespace Adsb
open Adsb.Spec

/-- `BitVec.zero_xor` for the literal `0 : W` as the definitions write it (`rw` does not find `0#24` in it) -/
theorem zero_xor (x : W) : 0 ^^^ x = x := BitVec.zero_xor
theorem xor_zero (x : W) : x ^^^ 0 = x := BitVec.xor_zero

theorem xor_cancel (a x : W) : a ^^^ (a ^^^ x) = x := by
  rw [← BitVec.xor_assoc, BitVec.xor_self, BitVec.zero_xor]

/-- the regrouping behind every linearity statement -/
theorem xor_xor_xor_comm (a b c d : W) : (a ^^^ b) ^^^ (c ^^^ d) = (a ^^^ c) ^^^ (b ^^^ d) := by ac_rfl

/-- the one case split behind every linearity statement -/
theorem ite_xor (g : W) (a b : Bool) :
    (if (a != b) then g else 0) = (if a then g else 0) ^^^ (if b then g else 0) := by
  cases a <;> cases b <;> simp

theorem mulX_xor (r s : W) : mulX (r ^^^ s) = mulX r ^^^ mulX s := by
  unfold mulX
  rw [BitVec.shiftLeft_xor_distrib, BitVec.msb_xor, ite_xor]
  exact xor_xor_xor_comm ..

theorem mulX_zero : mulX 0 = 0 := by decide

/-- nothing is reduced while the top coefficient is 0 -/
theorem mulX_of_msb {r : W} (h : r.msb = false) : mulX r = r <<< 1 := by
  rw [mulX, h, if_neg Bool.false_ne_true, xor_zero]

theorem divStep_lin (r s : W) (a b : Bool) : divStep (r ^^^ s) (a != b) = divStep r a ^^^ divStep s b := by
  unfold divStep
  rw [mulX_xor, ite_xor]
  exact xor_xor_xor_comm ..

/-- `r·x^k mod g` -/
def mulXn : Nat → W → W
  | 0, r => r
  | k + 1, r => mulXn k (mulX r)

theorem mulXn_xor (k : Nat) (r s : W) : mulXn k (r ^^^ s) = mulXn k r ^^^ mulXn k s := by
  induction k generalizing r s with
  | zero => rfl
  | succ k ih => simp only [mulXn, mulX_xor, ih]

theorem mulXn_zero (k : Nat) : mulXn k 0 = 0 := by
  induction k with
  | zero => rfl
  | succ k ih => simp only [mulXn, mulX_zero, ih]

theorem mulXn_add (j k : Nat) (r : W) : mulXn (j + k) r = mulXn j (mulXn k r) := by
  induction k generalizing r with
  | zero => rfl
  | succ k ih => rw [← Nat.add_assoc, mulXn, mulXn, ih]

theorem mulXn_succ' (k : Nat) (r : W) : mulXn (k + 1) r = mulX (mulXn k r) := by
  rw [Nat.add_comm, mulXn_add]; rfl

/-- x^24 mod g is the generator's low part -/
theorem x24 : mulXn 24 1 = G := by decide

/-- below the degree of g nothing is reduced: multiplication by x^k is the shift -/
theorem mulXn_small (k : Nat) (r : W) (h : r.toNat * 2 ^ k < 2 ^ 24) : mulXn k r = r <<< k := by
  induction k generalizing r with
  | zero => exact (BitVec.shiftLeft_zero r).symm
  | succ k ih =>
    rw [Nat.pow_succ, Nat.mul_comm _ 2, ← Nat.mul_assoc] at h
    have h2 : r.toNat * 2 < 2 ^ 24 := Nat.lt_of_le_of_lt (Nat.le_mul_of_pos_right _ (Nat.two_pow_pos k)) h
    rw [mulXn, mulX_of_msb (BitVec.msb_eq_false_iff_two_mul_lt.mpr (Nat.mul_comm .. ▸ h2)), ih, ← BitVec.shiftLeft_add,
      Nat.add_comm]
    rw [BitVec.toNat_shiftLeft, Nat.shiftLeft_eq, Nat.pow_one, Nat.mod_eq_of_lt h2]
    exact h

theorem mulXn_one (k : Nat) (h : k < 24) : (mulXn k 1).toNat = 2 ^ k := by
  have hp : 2 ^ k < 2 ^ 24 := Nat.pow_lt_pow_right (by decide) h
  rw [mulXn_small k 1 (by show 1 * _ < _; omega), BitVec.toNat_shiftLeft, Nat.shiftLeft_eq]
  show 1 * 2 ^ k % 2 ^ 24 = _
  rw [Nat.one_mul, Nat.mod_eq_of_lt hp]

/-! ## multiplication by x has no kernel, so (being linear) it is injective: the generator has constant term 1 -/

/-- the constant term of `r·x mod g` says whether g was subtracted -/
theorem mulX_getLsbD_zero (r : W) : (mulX r).getLsbD 0 = r.msb := by
  unfold mulX
  cases r.msb
  · simp
  · simp; decide

theorem mulX_eq_zero (r : W) (h : mulX r = 0) : r = 0 := by
  have hm : r.msb = false := by rw [← mulX_getLsbD_zero, h]; rfl
  have hlt := BitVec.msb_eq_false_iff_two_mul_lt.mp hm
  have h0 : (r <<< 1).toNat = 0 := congrArg BitVec.toNat (mulX_of_msb hm ▸ h)
  rw [BitVec.toNat_shiftLeft, Nat.shiftLeft_eq, Nat.pow_one] at h0
  exact BitVec.eq_of_toNat_eq (by change r.toNat = 0; omega)

theorem mulXn_eq_zero (k : Nat) (r : W) (h : mulXn k r = 0) : r = 0 := by
  induction k generalizing r with
  | zero => exact h
  | succ k ih => exact mulX_eq_zero r (ih (mulX r) h)

def bitW (b : Bool) : W := if b then 1 else 0

theorem fold_divStep (l : List Bool) (r : W) : l.foldl divStep r = mulXn l.length r ^^^ syndrome l := by
  unfold syndrome
  induction l generalizing r with
  | nil => exact (xor_zero r).symm
  | cons b t ih =>
    rw [List.foldl_cons, List.foldl_cons, ih, ih (divStep 0 b), ← BitVec.xor_assoc, List.length_cons, mulXn, ← mulXn_xor]
    congr 2
    show mulX r ^^^ bitW b = mulX r ^^^ (mulX 0 ^^^ bitW b)
    rw [mulX_zero, zero_xor]

theorem syndrome_append (a b : List Bool) : syndrome (a ++ b) = mulXn b.length (syndrome a) ^^^ syndrome b := by
  rw [syndrome, List.foldl_append, fold_divStep]; rfl

theorem syndrome_cons (b : Bool) (t : List Bool) : syndrome (b :: t) = mulXn t.length (bitW b) ^^^ syndrome t := by
  rw [← List.singleton_append, syndrome_append]; cases b <;> rfl

theorem syndrome_false (t : List Bool) : syndrome (false :: t) = syndrome t := by
  rw [syndrome_cons, show bitW false = 0 from rfl, mulXn_zero, zero_xor]

theorem syndrome_true (t : List Bool) : syndrome (true :: t) = mulXn t.length 1 ^^^ syndrome t := syndrome_cons true t

/-- a string of at most 24 bits is its own remainder -/
theorem syndrome_lt (t : List Bool) (h : t.length ≤ 24) : (syndrome t).toNat < 2 ^ t.length := by
  induction t with
  | nil => decide
  | cons b t ih =>
    have hl : t.length < 24 := h
    have ih : (syndrome t).toNat < 2 ^ (t.length + 1) :=
      Nat.lt_of_lt_of_le (ih (Nat.le_of_lt hl)) (Nat.pow_le_pow_right (by decide) (Nat.le_succ _))
    cases b with
    | false => rw [syndrome_false]; exact ih
    | true =>
      rw [syndrome_true, BitVec.toNat_xor]
      exact Nat.xor_lt_two_pow (by rw [mulXn_one _ hl]; exact Nat.pow_lt_pow_right (by decide) (Nat.lt_succ_self _)) ih

/-- and is not 0 unless all its bits are: the first set bit is the leading coefficient -/
theorem syndrome_short_ne_zero (t : List Bool) (h : t.length ≤ 24) (hne : ∃ b ∈ t, b = true) : syndrome t ≠ 0 := by
  induction t with
  | nil => obtain ⟨b, hb, _⟩ := hne; cases hb
  | cons b t ih =>
    have hl : t.length < 24 := h
    cases b with
    | false => rw [syndrome_false]; exact ih (Nat.le_of_lt hl) (by simpa using hne)
    | true =>
      intro hz
      rw [syndrome_true] at hz
      have e := congrArg BitVec.toNat (BitVec.xor_eq_zero_iff.mp hz)
      rw [mulXn_one _ hl] at e
      exact Nat.lt_irrefl _ (e ▸ syndrome_lt t (Nat.le_of_lt hl))

theorem bitStep_as (r : W) (b : Bool) : bitStep r b = mulX r ^^^ mulXn 24 (bitW b) := by
  cases b
  · exact congrArg (mulX r ^^^ ·) (mulXn_zero 24).symm
  · exact congrArg (mulX r ^^^ ·) x24.symm

/-- message·x^24 division and plain division run in lock step: D = T·x^24 -/
theorem fold_bitStep_eq (bits : List Bool) (t : W) :
    bits.foldl bitStep (mulXn 24 t) = mulXn 24 (bits.foldl divStep t) := by
  induction bits generalizing t with
  | nil => rfl
  | cons b rest ih =>
    simp only [List.foldl_cons]
    rw [bitStep_as, ← mulXn_succ', mulXn, ← mulXn_xor, ih]; rfl

theorem parity_eq (bits : List Bool) : parity bits = mulXn 24 (syndrome bits) := by
  rw [parity, syndrome, ← fold_bitStep_eq, mulXn_zero]

end Adsb
