import Lean.Meta.Tactic.Simp.RegisterCommand
/-! # The simp sets of the development (an attribute cannot be used in the module that declares it) -/

/-- `NoPanic` distributes over `>>=` and `if`, holds of `pure` / `ok` / `err` and of every reader already shown total -/
register_simp_attr nopanic

/-- the `NumOps ℚ` / `CprOps ℚ` operations are the field operations of `ℚ` -/
register_simp_attr cpr_rat

/-- the monad laws that flatten a `do` block with sub-readers into one sequence, and `Res.All` distributed over it -/
register_simp_attr res_walk
