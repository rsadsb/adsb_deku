import Adsb.Tracker
/-! # Lemmas about the association-list map and the per-record step of the tracker -/

namespace Adsb
variable {P D : Type}

theorem get_put (s : Airplanes P D) (k k2 : Nat) (v : Plane P D) :
    (s.put k v).get k2 = if k = k2 then some v else s.get k2 := by
  induction s with
  | nil => rfl
  | cons hd tl ih =>
    obtain ⟨k', v'⟩ := hd
    unfold Airplanes.put
    by_cases h1 : k < k'
    · rw [if_pos h1]; rfl
    · rw [if_neg h1]
      by_cases h2 : k = k'
      · subst h2; rw [if_pos rfl]; simp only [Airplanes.get]; split <;> rfl
      · rw [if_neg h2]; simp only [Airplanes.get, ih]
        by_cases h3 : k = k2
        · rw [if_pos h3, if_pos h3, if_neg (h3 ▸ Ne.symm h2)]
        · rw [if_neg h3, if_neg h3]

theorem get_put_same (s : Airplanes P D) (k : Nat) (v : Plane P D) : (s.put k v).get k = some v := by
  rw [get_put, if_pos rfl]

/-- keys in strictly increasing order: one record per address, iteration order = address order -/
def Sorted : Airplanes P D → Prop
  | [] => True
  | [_] => True
  | (k1, _) :: (k2, v2) :: rest => k1 < k2 ∧ Sorted ((k2, v2) :: rest)

def keys (s : Airplanes P D) : List Nat := s.map (·.1)

theorem sorted_iff (s : Airplanes P D) : Sorted s ↔ s.Pairwise (·.1 < ·.1) := by
  induction s with
  | nil => simp [Sorted]
  | cons a s ih =>
    cases s with
    | nil => simp [Sorted]
    | cons b s =>
      rw [Sorted, ih, List.pairwise_cons (a := a), List.pairwise_cons, List.forall_mem_cons]
      exact ⟨fun ⟨h, hb, hs⟩ => ⟨⟨h, fun c hc => Nat.lt_trans h (hb c hc)⟩, hb, hs⟩, fun ⟨⟨h, _⟩, hb, hs⟩ => ⟨h, hb, hs⟩⟩

theorem forall_mem_put {Q : Nat × Plane P D → Prop} {s : Airplanes P D} {k : Nat} {v : Plane P D} (hk : Q (k, v)) (hs : ∀ c ∈ s, Q c) :
    ∀ c ∈ s.put k v, Q c := by
  induction s with
  | nil => exact List.forall_mem_singleton.mpr hk
  | cons hd tl ih =>
    obtain ⟨hhd, htl⟩ := List.forall_mem_cons.mp hs
    unfold Airplanes.put
    split
    · exact List.forall_mem_cons.mpr ⟨hk, hs⟩
    · split
      · exact List.forall_mem_cons.mpr ⟨hk, htl⟩
      · exact List.forall_mem_cons.mpr ⟨hhd, ih htl⟩

theorem sorted_put (s : Airplanes P D) (k : Nat) (v : Plane P D) (hs : Sorted s) : Sorted (s.put k v) := by
  rw [sorted_iff] at hs ⊢
  induction s with
  | nil => exact List.pairwise_singleton _ _
  | cons hd tl ih =>
    obtain ⟨hlt, htl⟩ := List.pairwise_cons.mp hs
    unfold Airplanes.put
    split
    · next h1 => exact List.pairwise_cons.mpr ⟨List.forall_mem_cons.mpr ⟨h1, fun c hc => Nat.lt_trans h1 (hlt c hc)⟩, hs⟩
    · split
      · next h2 => exact List.pairwise_cons.mpr ⟨fun c hc => h2 ▸ hlt c hc, htl⟩
      · exact List.pairwise_cons.mpr ⟨forall_mem_put (show hd.1 < k by omega) hlt, ih htl⟩

theorem sorted_filter (s : Airplanes P D) (p : Nat × Plane P D → Bool) (hs : Sorted s) : Sorted (s.filter p) :=
  (sorted_iff _).mpr (((sorted_iff s).mp hs).filter p)

theorem get_eq_none (s : Airplanes P D) (k : Nat) (h : ∀ kv ∈ s, kv.1 ≠ k) : s.get k = none := by
  induction s with
  | nil => rfl
  | cons hd tl ih =>
    rw [Airplanes.get, if_neg (h hd List.mem_cons_self)]
    exact ih fun kv hkv => h kv (List.mem_cons_of_mem _ hkv)

theorem get_filter (s : Airplanes P D) (p : Nat × Plane P D → Bool) (k : Nat) (hs : Sorted s) :
    Airplanes.get (s.filter p) k = match s.get k with
      | some v => if p (k, v) then some v else none
      | none => none := by
  rw [sorted_iff] at hs
  induction s with
  | nil => rfl
  | cons hd tl ih =>
    obtain ⟨k', v'⟩ := hd
    obtain ⟨hlt, htl⟩ := List.pairwise_cons.mp hs
    by_cases hk : k' = k
    · subst hk
      have hf : Airplanes.get (tl.filter p) k' = none :=
        get_eq_none _ _ fun kv hkv => Nat.ne_of_gt (hlt kv (List.mem_filter.mp hkv).1)
      cases hp : p (k', v') <;> simp [hp, Airplanes.get, hf]
    · cases hp : p (k', v') <;> simp [hp, Airplanes.get, hk, ih htl]

theorem mem_keys_iff_get (s : Airplanes P D) (k : Nat) : k ∈ keys s ↔ (s.get k).isSome := by
  induction s with
  | nil => simp [keys, Airplanes.get]
  | cons hd tl ih =>
    simp only [keys, List.map_cons, List.mem_cons, Airplanes.get] at ih ⊢
    split
    · next h => simp [h]
    · next h => rw [← ih]; exact or_iff_right (Ne.symm h)

section
variable (g : Geo P D) (std : Bool) (now : Nat) (st : Plane P D) (a : Alt)

/-- a position update changes only `coords` and `track` -/
theorem updatePosition_shape : updatePosition g std now st a =
    { st with coords := (updatePosition g std now st a).coords, track := (updatePosition g std now st a).track } := by
  unfold updatePosition
  dsimp only
  split
  · split <;> rfl
  · rfl

@[simp] theorem updatePosition_numMessages : (updatePosition g std now st a).numMessages = st.numMessages := by rw [updatePosition_shape]
@[simp] theorem updatePosition_lastTime : (updatePosition g std now st a).lastTime = st.lastTime := by rw [updatePosition_shape]
@[simp] theorem updatePosition_callsign : (updatePosition g std now st a).callsign = st.callsign := by rw [updatePosition_shape]
@[simp] theorem updatePosition_vel : (updatePosition g std now st a).vel = st.vel := by rw [updatePosition_shape]

end
end Adsb
