import Adsb.Spec.Codes
/-! # What the specification functions of `Spec/Codes.lean` compute, in arithmetic on the code

`Spec.pulses` is the thirteen `testBit`s of the code (`pulses_eq`). `Spec.ac13` folds over lists of them; here the same value is
written with `c / 2 ^ k % 2` for the pulse at bit `k` and a Gray decode as running sums mod 2 (`ac13Arith`), and shown equal for
every `c` (`ac13_eq`). -/

namespace Adsb.Spec

theorem pulses_eq (c : Nat) : pulses c =
    ⟨c.testBit 12, c.testBit 11, c.testBit 10, c.testBit 9, c.testBit 8, c.testBit 7, c.testBit 6,
     c.testBit 5, c.testBit 4, c.testBit 3, c.testBit 2, c.testBit 1, c.testBit 0⟩ := rfl

theorem toNat_bne (a b : Bool) : (a != b).toNat = (a.toNat + b.toNat) % 2 := by
  cases a <;> cases b <;> rfl

/-- the 500-ft count: Gray(D2 D4 A1 A2 A4 B1 B2 B4), each decoded bit the sum mod 2 of the pulses up to it -/
def gray500 (c : Nat) : Nat :=
  let s1 := c / 4 % 2
  let s2 := (s1 + c % 2) % 2
  let s3 := (s2 + c / 2048 % 2) % 2
  let s4 := (s3 + c / 512 % 2) % 2
  let s5 := (s4 + c / 128 % 2) % 2
  let s6 := (s5 + c / 32 % 2) % 2
  let s7 := (s6 + c / 8 % 2) % 2
  let s8 := (s7 + c / 2 % 2) % 2
  2 * (2 * (2 * (2 * (2 * (2 * (2 * s1 + s2) + s3) + s4) + s5) + s6) + s7) + s8

/-- the 100-ft count before its fix-ups: Gray(C1 C2 C4) -/
def gray100 (c : Nat) : Nat :=
  let t1 := c / 4096 % 2
  let t2 := (t1 + c / 1024 % 2) % 2
  let t3 := (t2 + c / 256 % 2) % 2
  2 * (2 * t1 + t2) + t3

/-- the 25-ft count of a Q = 1 code: the eleven pulses other than M and Q, in field order -/
def count25 (c : Nat) : Nat :=
  2 * (2 * (2 * (2 * (2 * (2 * (2 * (2 * (2 * (2 * (c / 4096 % 2) + c / 2048 % 2) + c / 1024 % 2) + c / 512 % 2) + c / 256 % 2) + c / 128 % 2) +
    c / 32 % 2) + c / 8 % 2) + c / 4 % 2) + c / 2 % 2) + c % 2

theorem gray500_eq (c : Nat) :
    ofBits (grayDecode [(pulses c).d2, (pulses c).d4, (pulses c).a1, (pulses c).a2, (pulses c).a4, (pulses c).b1, (pulses c).b2, (pulses c).b4]) = gray500 c := by
  simp only [gray500, pulses_eq, grayDecode, ofBits, List.foldl, List.nil_append, List.cons_append, toNat_bne, Bool.false_bne, Nat.toNat_testBit,
    Nat.reducePow, Nat.div_one, Nat.mul_zero, Nat.zero_add]

theorem gray100_eq (c : Nat) : ofBits (grayDecode [(pulses c).c1, (pulses c).c2, (pulses c).c4]) = gray100 c := by
  simp only [gray100, pulses_eq, grayDecode, ofBits, List.foldl, List.nil_append, List.cons_append, toNat_bne, Bool.false_bne, Nat.toNat_testBit,
    Nat.reducePow, Nat.mul_zero, Nat.zero_add]

theorem count25_eq (c : Nat) :
    ofBits [(pulses c).c1, (pulses c).a1, (pulses c).c2, (pulses c).a2, (pulses c).c4, (pulses c).a4, (pulses c).b1, (pulses c).b2, (pulses c).d2,
      (pulses c).b4, (pulses c).d4] = count25 c := by
  simp only [count25, pulses_eq, ofBits, List.foldl, Nat.toNat_testBit, Nat.reducePow, Nat.div_one, Nat.mul_zero, Nat.zero_add]

theorem pulses_m_iff (c : Nat) : (pulses c).m = true ↔ c / 64 % 2 = 1 := by
  simp only [pulses_eq, Nat.testBit_eq_decide_div_mod_eq, Nat.reducePow, decide_eq_true_eq]
theorem pulses_q_iff (c : Nat) : (pulses c).q = true ↔ c / 16 % 2 = 1 := by
  simp only [pulses_eq, Nat.testBit_eq_decide_div_mod_eq, Nat.reducePow, decide_eq_true_eq]

/-- `gillhamFeet` of a code with Q = 0, from the two Gray counts -/
def gillhamArith (c : Nat) : Option Nat :=
  let g100 := gray100 c
  if g100 = 0 ∨ g100 = 5 ∨ g100 = 6 then none else
  let n100 := if g100 = 7 then 5 else g100
  let n100 := if gray500 c % 2 = 1 then 6 - n100 else n100
  let hundreds := 5 * gray500 c + n100
  if hundreds < 13 then none else some (100 * (hundreds - 13))

theorem gillhamFeet_eq (c : Nat) : gillhamFeet c = if c / 16 % 2 = 1 then none else gillhamArith c := by
  simp only [gillhamFeet, gillhamArith, gray500_eq, gray100_eq, pulses_q_iff]

/-- `Spec.ac13` with its counts in arithmetic; the case distinction is the specification's -/
def ac13Arith (c : Nat) : Option Nat :=
  if c = 0 then none
  else if c / 64 % 2 = 1 then none
  else if c / 16 % 2 = 1 then representable (if 25 * count25 c > 1000 then some (25 * count25 c - 1000) else none)
  else representable (gillhamArith c)

theorem ac13_eq (c : Nat) : ac13 c = ac13Arith c := by
  simp only [ac13, ac13Arith, count25_eq, gillhamFeet_eq, pulses_m_iff, pulses_q_iff]
  by_cases hq : c / 16 % 2 = 1 <;> simp only [hq, if_true, if_false]

theorem ac12_eq (c : Nat) : ac12 c = if c = 0 then none else ac13Arith (c / 64 * 128 + c % 64) := by
  simp only [ac12, ac13_eq]

end Adsb.Spec
