import Adsb.ModeAC
/-! # Bounds on the leaf functions of `ModeAC.lean`: why their arithmetic stays inside the Rust integer types -/

namespace Adsb

/-- the eight conditional XOR masks of the 500-ft count stay in eight bits -/
theorem fh_lt (b1 b2 b3 b4 b5 b6 b7 b8 : Bool) :
    ((if b1 then 0xff else 0) ^^^ (if b2 then 0x7f else 0) ^^^ (if b3 then 0x3f else 0) ^^^ (if b4 then 0x1f else 0) ^^^
     (if b5 then 0x0f else 0) ^^^ (if b6 then 0x07 else 0) ^^^ (if b7 then 0x03 else 0) ^^^ (if b8 then 0x01 else 0) : Nat) < 256 := by
  revert b1 b2 b3 b4 b5 b6 b7 b8; decide +kernel

theorem gillham_lt {fh oh : Nat} (c : Prop) [Decidable c] (hf : fh < 256) (ho : ¬ oh > 5) :
    fh * 5 + (if c then 6 - oh else oh) - 13 < 1280 := by
  split <;> omega

/-- a Gillham altitude is below 256·5 hundreds of feet, so `100 * n` is far from the `u32` limit -/
theorem modeAToC_lt {a n : Nat} (h : modeAToC a = some n) : n < 1280 := by
  simp only [modeAToC, Option.ite_none_left_eq_some, Option.ite_none_right_eq_some, Option.some.injEq] at h
  obtain ⟨_, ho, _, rfl⟩ := h
  exact gillham_lt _ (fh_lt ..) ho

/-- a masked value shifted right: `k` of the mask's bits are dropped -/
theorem shr_and_lt {x m k n : Nat} (h : m < 2 ^ (k + n)) : (x &&& m) >>> k < 2 ^ n := by
  rw [Nat.shiftRight_eq_div_pow]
  exact Nat.div_lt_of_lt_mul (Nat.pow_add .. ▸ Nat.and_lt_two_pow x h)

/-- the 25-ft count of a Q = 1 altitude code is eleven bits, so `n * 25` fits `u16` -/
theorem q_count_lt (num : Nat) : ((num &&& 0x1f80) >>> 2 ||| (num &&& 0x20) >>> 1 ||| num &&& 0xf) < 2 ^ 11 :=
  Nat.or_lt_two_pow (Nat.or_lt_two_pow (shr_and_lt (by decide)) (shr_and_lt (by decide))) (Nat.and_lt_two_pow _ (by decide))

theorem and_two_pow (c k : Nat) : c &&& 2 ^ k = (c.testBit k).toNat * 2 ^ k :=
  Nat.eq_of_testBit_eq fun i => by
    by_cases hi : k = i
    · subst hi; cases h : c.testBit k <;> simp [h]
    · cases c.testBit k <;> simp [hi]

/-- a one-bit mask tests that bit -/
theorem bitSet_eq (c k m : Nat) (hm : m = 2 ^ k) : bitSet c m = c.testBit k := by
  rw [bitSet, hm, and_two_pow]; cases c.testBit k <;> simp

theorem shr_and_one (x k : Nat) : (x >>> k) &&& 1 = (x.testBit k).toNat := by
  rw [Nat.toNat_testBit, Nat.shiftRight_eq_div_pow, Nat.and_one_is_mod]

end Adsb
