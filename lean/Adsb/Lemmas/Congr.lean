import Adsb.Lemmas.Reject
/-! # `decode` looks only at the frame: buffers that agree on its `L` bytes decode alike; bytes appended after it -/

namespace Adsb

section
variable {B B' : Buf} (h : ∀ i, i < 112 → B.bit i = B'.bit i)
include h

/- no discharger here: with one, `simp` re-simplifies the branches of the 13-way `if` over and over -/
theorem meAt_congr : meAt B = meAt B' := by
  simp only [meAt, altAt, velAt, velSubAt, identAt, surfAt, statusAt, tssAt, opStatusAt, opAirAt, opSurfAt, bitsAt_congr h,
    leBitsAt_congr h, Nat.reduceAdd, Nat.reduceLeDiff]

theorem meOk_congr : meOk B ↔ meOk B' := by
  simp (disch := decide) only [meOk, opOk, opAirOk, opSurfOk, bitsAt_congr h]

theorem bdsAt_congr : bdsAt B = bdsAt B' := by
  simp (disch := decide) only [bdsAt, dlcAt, identAt, bitsAt_congr h]

end

theorem dfAt_congr {B B' : Buf} {L : Nat} (hL : frameLen (bitsAt B 0 5) = some L) (h : ∀ i, i < 8 * L → B.bit i = B'.bit i) :
    dfAt B = dfAt B' := by
  have h5 : bitsAt B 0 5 = bitsAt B' 0 5 := bitsAt_congr h (by have := frameLen_ge _ _ hL; omega)
  refine dfAt_cases B hL (motive := fun id L df => (∀ i, i < 8 * L → B.bit i = B'.bit i) → bitsAt B' 0 5 = id → df = dfAt B')
    ?_ ?_ ?_ ?_ ?_ ?_ ?_ ?_ ?_ ?_ ?_ h h5.symm
  · intro h c; rw [dfAt_17 B' c, meAt_congr h]; simp (disch := decide) only [capAt, bitsAt_congr h]
  · intro h c; rw [dfAt_11 B' c]; simp (disch := decide) only [capAt, bitsAt_congr h]
  · intro h c; rw [dfAt_0 B' c]; simp (disch := decide) only [bitsAt_congr h]
  · intro h c; rw [dfAt_4 B' c]; simp (disch := decide) only [drAt, umAt, bitsAt_congr h]
  · intro h c; rw [dfAt_5 B' c]; simp (disch := decide) only [drAt, umAt, bitsAt_congr h]
  · intro h c; rw [dfAt_16 B' c]; simp (disch := decide) only [bitsAt_congr h]
  · intro h c; rw [dfAt_18 B' c, meAt_congr h]; simp (disch := decide) only [bitsAt_congr h]
  · intro h c; rw [dfAt_19 B' c]; simp (disch := decide) only [bitsAt_congr h]
  · intro h c; rw [dfAt_20 B' c, bdsAt_congr h]; simp (disch := decide) only [drAt, umAt, bitsAt_congr h]
  · intro h c; rw [dfAt_21 B' c, bdsAt_congr h]; simp (disch := decide) only [drAt, umAt, bitsAt_congr h]
  · intro c h c'; rw [dfAt_24 B' (c' ▸ c)]; simp (disch := decide) only [capAt, bitsAt_congr h, leBitsAt_congr h]

theorem decode_congr {B B' : Buf} {L : Nat} (hL : frameLen (bitsAt B 0 5) = some L) (hl : L ≤ B.len) (hl' : L ≤ B'.len)
    (hbits : ∀ i, i < 8 * L → B.bit i = B'.bit i) (hcrc : crcVal B.bytes L = crcVal B'.bytes L) (f : Frame) :
    decode B = .ok f ↔ decode B' = .ok f := by
  have h5 : bitsAt B 0 5 = bitsAt B' 0 5 := bitsAt_congr hbits (by have := frameLen_ge _ _ hL; omega)
  have h14 : (bitsAt B 0 5 = 17 ∨ bitsAt B 0 5 = 18) → L = 14 := by
    rintro (c | c) <;> rw [c] at hL <;> cases hL <;> rfl
  have hme : ((bitsAt B 0 5 = 17 ∨ bitsAt B 0 5 = 18) → meOk B) ↔ ((bitsAt B 0 5 = 17 ∨ bitsAt B 0 5 = 18) → meOk B') :=
    forall_congr' fun c => meOk_congr (by have := h14 c; subst this; exact hbits)
  rw [decode_ok_iff, decode_ok_iff, ← h5, ← dfAt_congr hL hbits]
  constructor <;> rintro ⟨L1, h1, _, h3, rfl⟩ <;> rw [hL] at h1 <;> cases h1
  · exact ⟨L, hL, hl', hme.mp h3, by rw [hcrc]⟩
  · exact ⟨L, hL, hl, hme.mpr h3, by rw [hcrc]⟩

theorem bit_append (b e : List UInt8) (i : Nat) (h : i < 8 * b.length) : (Buf.mk (b ++ e)).bit i = (Buf.mk b).bit i := by
  unfold Buf.bit
  have : i / 8 < b.length := by omega
  simp [List.getD_eq_getElem?_getD, List.getElem?_append_left this]

theorem crcVal_append (b e : List UInt8) (n : Nat) (h3 : 3 ≤ n) (hn : n ≤ b.length) :
    crcVal (b ++ e) n = crcVal b n := by
  rw [← crcVal_take (b ++ e) n b.length h3 hn, List.take_left' rfl]

end Adsb
