import Adsb.Lemmas.Char
/-! # The converse: whatever `decode` accepts lies in `Accept`; `decode` in closed form (`decode_ok_iff`, `decode_char`) -/

namespace Adsb

/-- a successfully decoded format value has the frame length of the format code it was read under: every variant reader
ends in `pure` of its own constructor, whatever was read on the way -/
theorem dfBody_frameLen (id : Nat) (B : Buf) (s : RS) :
    Res.All (fun r => frameLen id = some (r.1.bitLen / 8)) (dfBody id B s) := by
  simp only [dfBody, dfADSB, dfAllCall, dfShortAirAir, dfSurvAlt, dfSurvId, dfLongAirAir, dfTisB, dfMilitary, dfCommBAlt,
    dfCommBId, dfModeS, res_walk, Prod.forall, DF.bitLen, DF.dekuId]
  simp +contextual [frameLen]

/-- under DF17 / DF18 a successfully decoded value went through a successful `readME` -/
theorem dfBody_meOk (B : Buf) (hl : 1 ≤ B.len) (id : Nat) (hid : id = 17 ∨ id = 18) :
    Res.All (fun _ => meOk B) (dfBody id B ⟨5, 1⟩) := by
  rcases hid with rfl | rfl
  · show Res.All _ (dfADSB B ⟨5, 1⟩)
    unfold dfADSB
    rw [readCap_5 B hl, Res.ok_bind]
    refine (All_readBits_bind ..).mpr fun _ => ?_
    exact Res.All_bind_const (readME_all B _) _
  · show Res.All _ (dfTisB B ⟨5, 1⟩)
    unfold dfTisB
    refine (All_readBits_bind ..).mpr fun _ => ?_
    refine (All_readBits_bind ..).mpr fun _ => ?_
    exact Res.All_bind_const (readME_all B _) _

theorem readDF_inv (B : Buf) (df : DF) (s : RS) (h : readDF B RS.init = .ok (df, s)) :
    1 ≤ B.len ∧ dfBody (bitsAt B 0 5) B ⟨5, 1⟩ = .ok (df, s) := by
  obtain ⟨_, h1, h2⟩ := Res.bind_eq_ok h
  obtain ⟨hl, rfl⟩ := (readBits_eq_ok ..).mp h1
  exact ⟨by simp only [RS.init] at hl; omega, h2⟩

theorem decode_inv (B : Buf) (f : Frame) (h : decode B = .ok f) :
    ∃ s, readDF B RS.init = .ok (f.df, s) ∧ readCrc B f.df s.hi = .ok f.crc := by
  unfold decode at h
  obtain ⟨⟨df, s⟩, h1, h2⟩ := Res.bind_eq_ok h
  dsimp only at h2
  obtain ⟨crc, h3, h4⟩ := Res.bind_eq_ok h2
  rw [Res.pure_eq] at h4
  cases h4
  exact ⟨s, h1, h3⟩

/-- **everything the decoder accepts lies in the acceptance set** -/
theorem decode_ok_accept (B : Buf) (f : Frame) (h : decode B = .ok f) : Accept B := by
  obtain ⟨s, h1, h2⟩ := decode_inv B f h
  obtain ⟨hl1, hb⟩ := readDF_inv B f.df s h1
  have hfl := Res.All_ok (dfBody_frameLen _ _ _) hb
  exact (Accept_iff B).mpr ⟨_, hfl, readCrc_ok_len B f.df s.hi f.crc h2,
    fun hid => Res.All_ok (P := fun _ => meOk B) (dfBody_meOk B hl1 _ hid) hb⟩

/-- **`decode` in closed form, as one equivalence**: success, the decoded value and the checksum window -/
theorem decode_ok_iff (B : Buf) (f : Frame) :
    decode B = .ok f ↔ ∃ L, frameLen (bitsAt B 0 5) = some L ∧ L ≤ B.len ∧
      ((bitsAt B 0 5 = 17 ∨ bitsAt B 0 5 = 18) → meOk B) ∧ f = ⟨dfAt B, crcVal B.bytes L⟩ := by
  constructor
  · intro h
    have ha := decode_ok_accept B f h
    obtain ⟨L, hL, hlen, hd⟩ := decode_accept B ha
    obtain ⟨_, _, _, hme⟩ := (Accept_iff B).mp ha
    rw [hd] at h; cases h
    exact ⟨L, hL, hlen, hme, rfl⟩
  · rintro ⟨L, hL, hlen, hme, rfl⟩
    obtain ⟨L', hL', _, hd⟩ := decode_accept B ((Accept_iff B).mpr ⟨L, hL, hlen, hme⟩)
    rw [hL] at hL'; cases hL'; exact hd

theorem decoded (B : Buf) (f : Frame) (h : decode B = .ok f) :
    ∃ L, frameLen (bitsAt B 0 5) = some L ∧ L ≤ B.len ∧ f = ⟨dfAt B, crcVal B.bytes L⟩ := by
  obtain ⟨L, hL, hlen, _, hf⟩ := (decode_ok_iff B f).mp h
  exact ⟨L, hL, hlen, hf⟩

theorem decode_char (B : Buf) :
    (Accept B ∧ ∃ L, frameLen (bitsAt B 0 5) = some L ∧ L ≤ B.len ∧ decode B = .ok { df := dfAt B, crc := crcVal B.bytes L })
    ∨ (¬ Accept B ∧ ∀ f, decode B ≠ .ok f) := by
  by_cases h : Accept B
  · exact Or.inl ⟨h, decode_accept B h⟩
  · exact Or.inr ⟨h, fun f hf => h (decode_ok_accept B f hf)⟩

end Adsb
