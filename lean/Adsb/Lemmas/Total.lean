import Adsb.Frame
import Adsb.Lemmas.Attr
/-! # `NoPanic` for every reader of the decoder model

The readers are built from `readBits`, `>>=`, `if`, `pure` and `.err` and contain no `.panic` of their own (deku reports a failed
read as `Err`), so this is a closure property, shown by the set `nopanic`. One lemma per derived item of the Rust source; an enum's
lemma unfolds its variant wrappers. The places where the Rust code can panic, the overflow checks of the hand-written readers and of
`calculate`, are the subject of `Theorems/C01` (`ac13R`, `modeAToCR`, `calcR`) and of the translated functions in C03b, C06b, C07c. -/

namespace Adsb

/- `↓`: a block is split into its first step and the rest before `simp` walks into it, so every step is visited once -/
attribute [nopanic ↓] Res.NoPanic_bind_iff Res.NoPanic_ite_iff
attribute [nopanic] Res.NoPanic_pure Res.NoPanic_ok Res.NoPanic_err
  implies_true and_self ite_self

@[nopanic] theorem readBits_np (B : Buf) (n : Nat) (s : RS) : (readBits B n s).NoPanic := by simp only [nopanic, readBits]
@[nopanic] theorem readBitsLE_np (B : Buf) (n : Nat) (s : RS) : (readBitsLE B n s).NoPanic := by simp only [nopanic, readBitsLE]
@[nopanic] theorem seekBack_np (k : Nat) (s : RS) : (seekBack k s).NoPanic := by simp only [nopanic, seekBack]
@[nopanic] theorem skipBits_np (B : Buf) (n : Nat) (s : RS) : (skipBits B n s).NoPanic := by
  unfold skipBits readBits; by_cases h : s.bp + n ≤ 8 * B.len <;> simp only [h, ↓reduceIte] <;> trivial

@[nopanic] theorem readCap_np (B : Buf) (s : RS) : (readCap B s).NoPanic := by simp only [nopanic, readCap, readCapReserved]
@[nopanic] theorem readDR_np (B : Buf) (s : RS) : (readDR B s).NoPanic := by simp only [nopanic, readDR, readDRUnknown]
@[nopanic] theorem readUM_np (B : Buf) (s : RS) : (readUM B s).NoPanic := by simp only [nopanic, readUM]
@[nopanic] theorem readChars_np (B : Buf) (k : Nat) (s : RS) : (readChars B k s).NoPanic := by
  induction k generalizing s with
  | zero => exact Res.NoPanic_pure _
  | succ k ih => simp only [nopanic, readChars, ih]
@[nopanic] theorem readIdent8_np (B : Buf) (s : RS) : (readIdent8 B s).NoPanic := by simp only [nopanic, readIdent8]
@[nopanic] theorem readAlt_np (B : Buf) (s : RS) : (readAlt B s).NoPanic := by simp only [nopanic, readAlt]
@[nopanic] theorem readIdent_np (B : Buf) (s : RS) : (readIdent B s).NoPanic := by simp only [nopanic, readIdent]
@[nopanic] theorem readSurf_np (B : Buf) (s : RS) : (readSurf B s).NoPanic := by simp only [nopanic, readSurf]
@[nopanic] theorem readVelSub_np (B : Buf) (st : Nat) (s : RS) : (readVelSub B st s).NoPanic := by
  simp only [nopanic, readVelSub, readVelReserved0, readVelReserved1, readVelGround, readVelAirspeed]
@[nopanic] theorem readVel_np (B : Buf) (s : RS) : (readVel B s).NoPanic := by simp only [nopanic, readVel]
@[nopanic] theorem readAcStatus_np (B : Buf) (s : RS) : (readAcStatus B s).NoPanic := by simp only [nopanic, readAcStatus]
@[nopanic] theorem readTSS_np (B : Buf) (s : RS) : (readTSS B s).NoPanic := by simp only [nopanic, readTSS]
@[nopanic] theorem readOpMode_np (B : Buf) (s : RS) : (readOpMode B s).NoPanic := by simp only [nopanic, readOpMode]
@[nopanic] theorem readVersion_np (B : Buf) (s : RS) : (readVersion B s).NoPanic := by simp only [nopanic, readVersion]
@[nopanic] theorem readOpAir_np (B : Buf) (s : RS) : (readOpAir B s).NoPanic := by simp only [nopanic, readOpAir]
@[nopanic] theorem readOpSurf_np (B : Buf) (s : RS) : (readOpSurf B s).NoPanic := by simp only [nopanic, readOpSurf]
@[nopanic] theorem readOpStatus_np (B : Buf) (s : RS) : (readOpStatus B s).NoPanic := by
  simp only [nopanic, readOpStatus, readOpAirborne, readOpSurface, readOpReserved]
@[nopanic] theorem readME_np (B : Buf) (s : RS) : (readME B s).NoPanic := by
  simp only [nopanic, readME, meBody, meAirPosBaro, meAirPosGnss, meAirPos, meVelocity, meNoPosition, meReserved0, meOpCoord,
    meRaw53, meSurfaceSystemStatus, meReserved1, meRaw56, meIdent, meSurface, meStatus, meTSS, meOpStatus]
@[nopanic] theorem readDLC_np (B : Buf) (s : RS) : (readDLC B s).NoPanic := by simp only [nopanic, readDLC]
@[nopanic] theorem readBDS_np (B : Buf) (s : RS) : (readBDS B s).NoPanic := by
  simp only [nopanic, readBDS, bdsBody, bdsEmpty, bdsDataLink, bdsIdent, bdsUnknown]
@[nopanic] theorem readDF_np (B : Buf) (s : RS) : (readDF B s).NoPanic := by
  simp only [nopanic, readDF, dfBody, dfADSB, dfAllCall, dfShortAirAir, dfSurvAlt, dfSurvId, dfLongAirAir, dfTisB, dfMilitary,
    dfCommBAlt, dfCommBId, dfModeS]
@[nopanic] theorem modesChecksum_np (msg : List UInt8) (bits : Nat) : (modesChecksum msg bits).NoPanic := by
  simp only [nopanic, modesChecksum]

theorem decode_np (B : Buf) : (decode B).NoPanic := by simp only [nopanic, decode, readCrc]

end Adsb
