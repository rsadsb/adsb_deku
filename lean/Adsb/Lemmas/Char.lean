import Adsb.Lemmas.Paths
/-! # The closed form `dfAt`, the acceptance set, and `decode` on it (`decode_accept`) -/

namespace Adsb

section
attribute [local congr] Res.bind_congr_left   -- for the `dk` calls, up to `readDF_accept`

def dlcAt (B : Buf) : DLC :=
  { continuation := bitsAt B 40 1, overlay := bitsAt B 46 1, acas := bitsAt B 47 1, subnet := bitsAt B 48 7,
    enhanced := bitsAt B 55 1, specific := bitsAt B 56 1, uplinkElm := bitsAt B 57 3, downlinkElm := bitsAt B 60 4,
    identCap := bitsAt B 64 1, squitterCap := bitsAt B 65 1, sic := bitsAt B 66 1, gicb := bitsAt B 67 1,
    reservedAcas := bitsAt B 68 4, bitArray := bitsAt B 72 16 }

/-- the Comm-B message field (frame bits 32–87) -/
def bdsAt (B : Buf) : BDS :=
  if bitsAt B 32 8 = 0x00 then .empty (bitsAt B 40 48)
  else if bitsAt B 32 8 = 0x10 then .dataLink (dlcAt B)
  else if bitsAt B 32 8 = 0x20 then .ident (identAt B 40)
  else .unknown (bitsAt B 32 8) (bitsAt B 40 48)

theorem readBDS_ok (B : Buf) (h : 11 ≤ B.len) : readBDS B ⟨32, 4⟩ = .ok (bdsAt B, ⟨88, 11⟩) := by
  have e : readBDS B ⟨32, 4⟩ = bdsBody (bitsAt B 32 8) B ⟨40, 5⟩ := by dk [readBDS, fits_lit h]
  rw [e]
  by_cases c1 : bitsAt B 32 8 = 0x00
  · dk [bdsBody, bdsAt, c1, bdsEmpty, fits_lit h]
  by_cases c2 : bitsAt B 32 8 = 0x10
  · dk [bdsBody, bdsAt, c2, bdsDataLink, readDLC_ok, dlcAt, fits_lit h]
  by_cases c3 : bitsAt B 32 8 = 0x20
  · dk [bdsBody, bdsAt, c3, bdsIdent, readIdent8_ok, fits_lit h]
  · dk [bdsBody, bdsAt, c1, c2, c3, bdsUnknown, fits_lit h]

/-- the decoded `DF` as bit fields of the frame; same case order as the decoder's `match`. It is what `decode` returns only for a
supported format code (`frameLen ≠ none`): the codes 1–3, 6–10, 12–15, 22, 23 fall through to the last line here and are rejected there. -/
def dfAt (B : Buf) : DF :=
  let id := bitsAt B 0 5
  if id = 17 then .adsb (capAt B) (bitsAt B 8 24) (meAt B) (bitsAt B 88 24)
  else if id = 11 then .allCall (capAt B) (bitsAt B 8 24) (bitsAt B 32 24)
  else if id = 0 then .shortAirAir (bitsAt B 5 1) (bitsAt B 6 1) (bitsAt B 7 1) (bitsAt B 8 3) (bitsAt B 11 2)
      (bitsAt B 13 4) (bitsAt B 17 2) (ac13 (bitsAt B 19 13)) (bitsAt B 32 24)
  else if id = 4 then .survAlt (bitsAt B 5 3) (drAt B) (umAt B) (ac13 (bitsAt B 19 13)) (bitsAt B 32 24)
  else if id = 5 then .survId (bitsAt B 5 3) (drAt B) (umAt B) (identityCode (bitsAt B 19 13)) (bitsAt B 32 24)
  else if id = 16 then .longAirAir (bitsAt B 5 1) (bitsAt B 6 2) (bitsAt B 8 3) (bitsAt B 11 2) (bitsAt B 13 4)
      (bitsAt B 17 2) (ac13 (bitsAt B 19 13)) (bitsAt B 32 56) (bitsAt B 88 24)
  else if id = 18 then .tisb (bitsAt B 5 3) (bitsAt B 8 24) (meAt B) (bitsAt B 88 24)
  else if id = 19 then .military (bitsAt B 5 3)
  else if id = 20 then .commBAlt (bitsAt B 5 3) (drAt B) (umAt B) (ac13 (bitsAt B 19 13)) (bdsAt B)
  else if id = 21 then .commBId (bitsAt B 5 3) (drAt B) (umAt B) (decodeId13 (bitsAt B 19 13)) (bdsAt B) (bitsAt B 88 24)
  else .modeS (bitsAt B 0 5) (capAt B) (bitsAt B 8 24) (bitsAt B 32 5) (leBitsAt B 37 51) (bitsAt B 88 24)

theorem dfAt_17 (B : Buf) (c : bitsAt B 0 5 = 17) : dfAt B = .adsb (capAt B) (bitsAt B 8 24) (meAt B) (bitsAt B 88 24) := by
  simp [dfAt, c]
theorem dfAt_11 (B : Buf) (c : bitsAt B 0 5 = 11) : dfAt B = .allCall (capAt B) (bitsAt B 8 24) (bitsAt B 32 24) := by
  simp [dfAt, c]
theorem dfAt_0 (B : Buf) (c : bitsAt B 0 5 = 0) : dfAt B = .shortAirAir (bitsAt B 5 1) (bitsAt B 6 1) (bitsAt B 7 1) (bitsAt B 8 3)
    (bitsAt B 11 2) (bitsAt B 13 4) (bitsAt B 17 2) (ac13 (bitsAt B 19 13)) (bitsAt B 32 24) := by
  simp [dfAt, c]
theorem dfAt_4 (B : Buf) (c : bitsAt B 0 5 = 4) : dfAt B = .survAlt (bitsAt B 5 3) (drAt B) (umAt B) (ac13 (bitsAt B 19 13)) (bitsAt B 32 24) := by
  simp [dfAt, c]
theorem dfAt_5 (B : Buf) (c : bitsAt B 0 5 = 5) : dfAt B = .survId (bitsAt B 5 3) (drAt B) (umAt B) (identityCode (bitsAt B 19 13)) (bitsAt B 32 24) := by
  simp [dfAt, c]
theorem dfAt_16 (B : Buf) (c : bitsAt B 0 5 = 16) : dfAt B = .longAirAir (bitsAt B 5 1) (bitsAt B 6 2) (bitsAt B 8 3) (bitsAt B 11 2) (bitsAt B 13 4)
    (bitsAt B 17 2) (ac13 (bitsAt B 19 13)) (bitsAt B 32 56) (bitsAt B 88 24) := by
  simp [dfAt, c]
theorem dfAt_18 (B : Buf) (c : bitsAt B 0 5 = 18) : dfAt B = .tisb (bitsAt B 5 3) (bitsAt B 8 24) (meAt B) (bitsAt B 88 24) := by
  simp [dfAt, c]
theorem dfAt_19 (B : Buf) (c : bitsAt B 0 5 = 19) : dfAt B = .military (bitsAt B 5 3) := by
  simp [dfAt, c]
theorem dfAt_20 (B : Buf) (c : bitsAt B 0 5 = 20) : dfAt B = .commBAlt (bitsAt B 5 3) (drAt B) (umAt B) (ac13 (bitsAt B 19 13)) (bdsAt B) := by
  simp [dfAt, c]
theorem dfAt_21 (B : Buf) (c : bitsAt B 0 5 = 21) : dfAt B = .commBId (bitsAt B 5 3) (drAt B) (umAt B) (decodeId13 (bitsAt B 19 13)) (bdsAt B) (bitsAt B 88 24) := by
  simp [dfAt, c]
theorem dfAt_24 (B : Buf) (c : 24 ≤ bitsAt B 0 5) : dfAt B = .modeS (bitsAt B 0 5) (capAt B) (bitsAt B 8 24) (bitsAt B 32 5) (leBitsAt B 37 51) (bitsAt B 88 24) := by
  have n (k : Nat) (hk : k < 24) : (bitsAt B 0 5 = k) = False := eq_false (by omega)
  simp [dfAt, n]

/-- frame length in bytes of a 5-bit format code; `none` = unsupported format -/
def frameLen (id : Nat) : Option Nat :=
  if id = 0 ∨ id = 4 ∨ id = 5 ∨ id = 11 then some 7
  else if (16 ≤ id ∧ id ≤ 21) ∨ 24 ≤ id then some 14
  else none

/-- the acceptance set of the decoder -/
def Accept (B : Buf) : Prop :=
  match frameLen (bitsAt B 0 5) with
  | none => False
  | some L => L ≤ B.len ∧ ((bitsAt B 0 5 = 17 ∨ bitsAt B 0 5 = 18) → meOk B)

instance (B : Buf) : Decidable (Accept B) := by
  unfold Accept; cases frameLen (bitsAt B 0 5) <;> infer_instance

theorem Accept_iff (B : Buf) : Accept B ↔
    ∃ L, frameLen (bitsAt B 0 5) = some L ∧ L ≤ B.len ∧ ((bitsAt B 0 5 = 17 ∨ bitsAt B 0 5 = 18) → meOk B) := by
  unfold Accept; cases frameLen (bitsAt B 0 5) <;> simp

theorem frameLen_table : ∀ id, id < 32 →
    (frameLen id = some 7 ∧ (id = 11 ∨ id = 0 ∨ id = 4 ∨ id = 5)) ∨
    (frameLen id = some 14 ∧ (id = 17 ∨ id = 16 ∨ id = 18 ∨ id = 19 ∨ id = 20 ∨ id = 21 ∨ 24 ≤ id)) ∨ frameLen id = none := by
  decide

theorem frameLen_ge (id L : Nat) (h : frameLen id = some L) : 7 ≤ L := by
  unfold frameLen at h
  split at h
  · cases h; decide
  · split at h
    · cases h; decide
    · cases h

/-- **case analysis on a supported frame**: a statement about the format code, the frame length and the closed form is
proved variant by variant. (Proofs go through this rather than unfold `dfAt` / `dfBody` at a symbolic code.) -/
theorem dfAt_cases (B : Buf) {L : Nat} (hL : frameLen (bitsAt B 0 5) = some L) {motive : Nat → Nat → DF → Prop}
    (h17 : motive 17 14 (.adsb (capAt B) (bitsAt B 8 24) (meAt B) (bitsAt B 88 24)))
    (h11 : motive 11 7 (.allCall (capAt B) (bitsAt B 8 24) (bitsAt B 32 24)))
    (h0 : motive 0 7 (.shortAirAir (bitsAt B 5 1) (bitsAt B 6 1) (bitsAt B 7 1) (bitsAt B 8 3) (bitsAt B 11 2) (bitsAt B 13 4)
      (bitsAt B 17 2) (ac13 (bitsAt B 19 13)) (bitsAt B 32 24)))
    (h4 : motive 4 7 (.survAlt (bitsAt B 5 3) (drAt B) (umAt B) (ac13 (bitsAt B 19 13)) (bitsAt B 32 24)))
    (h5 : motive 5 7 (.survId (bitsAt B 5 3) (drAt B) (umAt B) (identityCode (bitsAt B 19 13)) (bitsAt B 32 24)))
    (h16 : motive 16 14 (.longAirAir (bitsAt B 5 1) (bitsAt B 6 2) (bitsAt B 8 3) (bitsAt B 11 2) (bitsAt B 13 4) (bitsAt B 17 2)
      (ac13 (bitsAt B 19 13)) (bitsAt B 32 56) (bitsAt B 88 24)))
    (h18 : motive 18 14 (.tisb (bitsAt B 5 3) (bitsAt B 8 24) (meAt B) (bitsAt B 88 24)))
    (h19 : motive 19 14 (.military (bitsAt B 5 3)))
    (h20 : motive 20 14 (.commBAlt (bitsAt B 5 3) (drAt B) (umAt B) (ac13 (bitsAt B 19 13)) (bdsAt B)))
    (h21 : motive 21 14 (.commBId (bitsAt B 5 3) (drAt B) (umAt B) (decodeId13 (bitsAt B 19 13)) (bdsAt B) (bitsAt B 88 24)))
    (h24 : 24 ≤ bitsAt B 0 5 → motive (bitsAt B 0 5) 14
      (.modeS (bitsAt B 0 5) (capAt B) (bitsAt B 8 24) (bitsAt B 32 5) (leBitsAt B 37 51) (bitsAt B 88 24))) :
    motive (bitsAt B 0 5) L (dfAt B) := by
  rcases frameLen_table _ (bitsAt_lt B 0 5) with ⟨e, c | c | c | c⟩ | ⟨e, c | c | c | c | c | c | c⟩ | e <;>
    rw [e] at hL <;> cases hL
  · rw [dfAt_11 B c, c]; exact h11
  · rw [dfAt_0 B c, c]; exact h0
  · rw [dfAt_4 B c, c]; exact h4
  · rw [dfAt_5 B c, c]; exact h5
  · rw [dfAt_17 B c, c]; exact h17
  · rw [dfAt_16 B c, c]; exact h16
  · rw [dfAt_18 B c, c]; exact h18
  · rw [dfAt_19 B c, c]; exact h19
  · rw [dfAt_20 B c, c]; exact h20
  · rw [dfAt_21 B c, c]; exact h21
  · rw [dfAt_24 B c]; exact h24 c

theorem readDF_eq (B : Buf) (h : 1 ≤ B.len) : readDF B RS.init = dfBody (bitsAt B 0 5) B ⟨5, 1⟩ := by dk [readDF, fits_lit h]

theorem readDF_accept (B : Buf) (L : Nat) (hL : frameLen (bitsAt B 0 5) = some L) (hlen : L ≤ B.len)
    (hme : (bitsAt B 0 5 = 17 ∨ bitsAt B 0 5 = 18) → meOk B) : ∃ s, readDF B RS.init = .ok (dfAt B, s) := by
  rw [readDF_eq B (by have := frameLen_ge _ _ hL; omega)]
  refine dfAt_cases B hL (motive := fun id L df => L ≤ B.len → ((id = 17 ∨ id = 18) → meOk B) →
    ∃ s, dfBody id B ⟨5, 1⟩ = .ok (df, s)) ?_ ?_ ?_ ?_ ?_ ?_ ?_ ?_ ?_ ?_ ?_ hlen hme
  · intro h hme; exact ⟨_, by dk [dfBody, dfADSB, readCap_5, readME_ok, hme (Or.inl rfl), fits_lit h]; rfl⟩
  · intro h _; exact ⟨_, by dk [dfBody, dfAllCall, readCap_5, fits_lit h]; rfl⟩
  · intro h _; exact ⟨_, by dk [dfBody, dfShortAirAir, fits_lit h]; rfl⟩
  · intro h _; exact ⟨_, by dk [dfBody, dfSurvAlt, readDR_8, readUM_ok, umAt, fits_lit h]; rfl⟩
  · intro h _; exact ⟨_, by dk [dfBody, dfSurvId, readDR_8, readUM_ok, umAt, fits_lit h]; rfl⟩
  · intro h _; exact ⟨_, by dk [dfBody, dfLongAirAir, fits_lit h]; rfl⟩
  · intro h hme; exact ⟨_, by dk [dfBody, dfTisB, readME_ok, hme (Or.inr rfl), fits_lit h]; rfl⟩
  · intro h _; exact ⟨_, by dk [dfBody, dfMilitary, fits_lit h]; rfl⟩
  · intro h _; exact ⟨_, by dk [dfBody, dfCommBAlt, readDR_8, readUM_ok, umAt, readBDS_ok, fits_lit h]; rfl⟩
  · intro h _; exact ⟨_, by dk [dfBody, dfCommBId, readDR_8, readUM_ok, umAt, readBDS_ok, fits_lit h]; rfl⟩
  · intro c h _
    have n (k : Nat) (hk : k < 24) : (bitsAt B 0 5 = k) = False := eq_false (by omega)
    exact ⟨_, by dk [dfBody, n, Nat.reduceLT, c, dfModeS, readCap_5, fits_lit h]; rfl⟩

end

/-! ## what a successfully read payload satisfies

The converse of `readOpAir_ok` / `readOpSurf_ok` / `readME_ok`: a payload that is read successfully meets the acceptance
condition. The reader is flattened into one sequence of reads and walked by the `All` rules; each read contributes its length
condition, each assertion its test, and what is left is arithmetic. -/

theorem readOpAir_all (B : Buf) (bp hi : Nat) : Res.All (fun _ => opAirOk B bp) (readOpAir B ⟨bp, hi⟩) := by
  simp only [res_walk, readOpAir, readOpMode, readVersion, implies_true, true_and, and_true, Nat.add_assoc, Nat.reduceAdd]
  unfold opAirOk; omega

theorem readOpSurf_all (B : Buf) (bp hi : Nat) : Res.All (fun _ => opSurfOk B bp) (readOpSurf B ⟨bp, hi⟩) := by
  simp only [res_walk, readOpSurf, readOpMode, readVersion, implies_true, true_and, and_true, Nat.add_assoc, Nat.reduceAdd]
  unfold opSurfOk; omega

theorem readME_all (B : Buf) (hi : Nat) : Res.All (fun _ => meOk B) (readME B ⟨32, hi⟩) := by
  unfold readME
  refine (All_readBits_bind ..).mpr fun _ => ?_
  show Res.All _ (meBody (bitsAt B 32 5) B _)
  by_cases h31 : bitsAt B 32 5 = 31
  · rw [h31]
    show Res.All _ (meOpStatus B _)
    unfold meOpStatus
    refine Res.All_bind_const ?_ _
    unfold readOpStatus
    refine (All_readBits_bind ..).mpr fun _ => ?_
    show Res.All _ (if bitsAt B 37 3 = 0 then readOpAirborne B _ else if bitsAt B 37 3 = 1 then readOpSurface B _ else _)
    unfold meOk opOk
    by_cases c0 : bitsAt B 37 3 = 0
    · rw [if_pos c0]
      exact Res.All_bind_const ((readOpAir_all B 40 _).imp fun _ h _ => ⟨fun _ => h, fun c1 => by omega⟩) _
    · rw [if_neg c0]
      by_cases c1 : bitsAt B 37 3 = 1
      · rw [if_pos c1]
        exact Res.All_bind_const ((readOpSurf_all B 40 _).imp fun _ h _ => ⟨fun c => absurd c c0, fun _ => h⟩) _
      · rw [if_neg c1]
        exact Res.All_of_forall fun _ _ => ⟨fun c => absurd c c0, fun c => absurd c c1⟩
  · exact Res.All_of_forall fun _ c => absurd c h31

/-! ## the checksum window -/

theorem DF.bitLen_cases (df : DF) : df.bitLen = 56 ∨ df.bitLen = 112 := by
  cases df <;> simp [DF.bitLen, DF.dekuId]

theorem readCrc_ok (B : Buf) (df : DF) (hi : Nat) (hl : df.bitLen / 8 ≤ B.bytes.length) :
    readCrc B df hi = .ok (crcVal B.bytes (df.bitLen / 8)) := by
  have h3 : 3 ≤ df.bitLen / 8 := by rcases DF.bitLen_cases df with h | h <;> rw [h] <;> decide
  unfold readCrc
  split
  · exact modesChecksum_ok _ _ h3 hl
  · exact modesChecksum_take _ _ _ h3 (by omega) hl

theorem modesChecksum_ok_len (msg : List UInt8) (bits c : Nat) (h : modesChecksum msg bits = .ok c) :
    bits / 8 ≤ msg.length := by
  by_cases hn : bits / 8 < 3 ∨ msg.length < bits / 8
  · simp [modesChecksum, hn] at h
  · omega

theorem readCrc_ok_len (B : Buf) (df : DF) (hi c : Nat) (h : readCrc B df hi = .ok c) : df.bitLen / 8 ≤ B.bytes.length := by
  unfold readCrc at h
  have h1 := modesChecksum_ok_len _ _ _ h
  have : (if df.bitLen > hi * 8 then B.bytes else List.take hi B.bytes).length ≤ B.bytes.length := by
    split
    · exact Nat.le_refl _
    · rw [List.length_take]; omega
  omega

theorem dfAt_bitLen (B : Buf) (L : Nat) (hL : frameLen (bitsAt B 0 5) = some L) : (dfAt B).bitLen = 8 * L :=
  dfAt_cases B hL (motive := fun _ L df => df.bitLen = 8 * L) rfl rfl rfl rfl rfl rfl rfl rfl rfl rfl (fun _ => rfl)

/-- **closed form of `decode` on the acceptance set** -/
theorem decode_accept (B : Buf) (h : Accept B) :
    ∃ L, frameLen (bitsAt B 0 5) = some L ∧ L ≤ B.len ∧ decode B = .ok { df := dfAt B, crc := crcVal B.bytes L } := by
  obtain ⟨L, hL, hlen, hme⟩ := (Accept_iff B).mp h
  refine ⟨L, hL, hlen, ?_⟩
  obtain ⟨s, hs⟩ := readDF_accept B L hL hlen hme
  have hb := dfAt_bitLen B L hL
  -- the checksum window does not depend on the reader state `s` the format reader ended in
  rw [decode_of_readDF B _ _ hs, readCrc_ok B _ _ (by rw [hb]; show 8 * L / 8 ≤ B.len; omega), hb,
    Nat.mul_div_cancel_left L (by decide)]
  rfl

end Adsb
