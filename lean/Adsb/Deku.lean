import Adsb.Bits
import Adsb.Res
/-! # The deku 0.18.1 reader, as used by adsb_deku

Reader state is `(bp, hi)`:
* `bp`   – position of the next unread bit. deku's byte cursor and buffered "leftover" bits are
           functions of it: the inner cursor stands at byte `⌈bp/8⌉` and `8⌈bp/8⌉ - bp` bits of
           the last byte are buffered.
* `hi`   – number of leading bytes pulled from the inner reader so far. `ReaderCrc` (which saves
           only bytes past the end of its cache) therefore holds exactly `bytes.take hi`.

`read_bits(n)` needs bytes `[⌈bp/8⌉, ⌈(bp+n)/8⌉)`; it fails with `Incomplete` iff they are not all
there, i.e. iff `bp + n > 8·len`.

deku also keeps `last_bits_read_amt`, reset to 0 when a derived enum starts reading its id, and
`seek_last_read()` seeks the inner reader back `⌈last_bits_read_amt/8⌉` *whole bytes* and drops the
buffered bits. In the generated code a `seek_last_read()` always follows directly after the id read of
an enum (reset, read `k` id bits, match, restore), so the counter equals the id width `k` at that
point; the model therefore takes `k` as an argument of `seekBack` instead of carrying the counter. -/


namespace Adsb

structure RS where
  bp : Nat
  hi : Nat
  deriving Repr

def RS.init : RS := { bp := 0, hi := 0 }

def readBits (B : Buf) (n : Nat) (s : RS) : Res (Nat × RS) :=
  if s.bp + n ≤ 8 * B.len then
    .ok (bitsAt B s.bp n, { bp := s.bp + n, hi := max s.hi ((s.bp + n + 7) / 8) })
  else .err .incomplete

/-- an `n`-bit field read without `endian = "big"` (native = little endian) -/
def readBitsLE (B : Buf) (n : Nat) (s : RS) : Res (Nat × RS) :=
  if s.bp + n ≤ 8 * B.len then
    .ok (leBitsAt B s.bp n, { bp := s.bp + n, hi := max s.hi ((s.bp + n + 7) / 8) })
  else .err .incomplete

/-- `seek_last_read()` right after a `k`-bit enum id -/
def seekBack (k : Nat) (s : RS) : Res RS :=
  let pos := (s.bp + 7) / 8
  let back := (k + 7) / 8
  if back > pos then .err .io else .ok { s with bp := 8 * (pos - back) }

/-- padding (`pad_bits_*`, `pad_bytes_*`): read and drop -/
def skipBits (B : Buf) (n : Nat) (s : RS) : Res RS :=
  match readBits B n s with
  | .ok (_, s') => .ok s'
  | .err e => .err e
  | .panic p => .panic p

theorem readBits_ok (B : Buf) (n bp hi : Nat) (h : bp + n ≤ 8 * B.len) :
    readBits B n { bp := bp, hi := hi }
      = .ok (bitsAt B bp n, { bp := bp + n, hi := max hi ((bp + n + 7) / 8) }) := by
  simp [readBits, h]

theorem readBitsLE_ok (B : Buf) (n bp hi : Nat) (h : bp + n ≤ 8 * B.len) :
    readBitsLE B n { bp := bp, hi := hi }
      = .ok (leBitsAt B bp n, { bp := bp + n, hi := max hi ((bp + n + 7) / 8) }) := by
  simp [readBitsLE, h]

theorem readBits_short (B : Buf) (n bp hi : Nat) (h : 8 * B.len < bp + n) :
    readBits B n { bp := bp, hi := hi } = .err .incomplete := by
  have : ¬ (bp + n ≤ 8 * B.len) := by omega
  simp [readBits, this]

theorem readBits_eq_ok (B : Buf) (n : Nat) (s : RS) (a : Nat × RS) :
    readBits B n s = .ok a ↔
      s.bp + n ≤ 8 * B.len ∧ a = (bitsAt B s.bp n, { bp := s.bp + n, hi := max s.hi ((s.bp + n + 7) / 8) }) := by
  unfold readBits
  by_cases h : s.bp + n ≤ 8 * B.len
  · simp only [h, if_true, Res.ok.injEq, true_and]; exact eq_comm
  · simp only [h, if_false, false_and]; exact ⟨fun x => (nomatch x), False.elim⟩

theorem skipBits_eq_ok (B : Buf) (n : Nat) (s a : RS) :
    skipBits B n s = .ok a ↔ s.bp + n ≤ 8 * B.len ∧ a = { bp := s.bp + n, hi := max s.hi ((s.bp + n + 7) / 8) } := by
  unfold skipBits readBits
  by_cases h : s.bp + n ≤ 8 * B.len
  · simp only [h, if_true, Res.ok.injEq, true_and]; exact eq_comm
  · simp only [h, if_false, false_and]; exact ⟨fun x => (nomatch x), False.elim⟩

/-! A read followed by the rest of the block, under `Res.All`: the read contributes its length condition and the block goes on
from the value read. As pre-rewrites (`res_walk`) these put the value into the continuation before `simp` walks into it. -/

theorem All_readBits_bind {β} {P : β → Prop} (B : Buf) (n : Nat) (s : RS) (f : Nat × RS → Res β) :
    Res.All P (readBits B n s >>= f) ↔
      (s.bp + n ≤ 8 * B.len → Res.All P (f (bitsAt B s.bp n, { bp := s.bp + n, hi := max s.hi ((s.bp + n + 7) / 8) }))) := by
  simp only [Res.All_bind_iff, readBits_eq_ok, and_imp, forall_eq_apply_imp_iff]

theorem All_skipBits_bind {β} {P : β → Prop} (B : Buf) (n : Nat) (s : RS) (f : RS → Res β) :
    Res.All P (skipBits B n s >>= f) ↔
      (s.bp + n ≤ 8 * B.len → Res.All P (f { bp := s.bp + n, hi := max s.hi ((s.bp + n + 7) / 8) })) := by
  simp only [Res.All_bind_iff, skipBits_eq_ok, and_imp, forall_eq_apply_imp_iff]

theorem seekBack_eq (k bp hi : Nat) (h : (k + 7) / 8 ≤ (bp + 7) / 8) :
    seekBack k { bp := bp, hi := hi } = .ok { bp := 8 * ((bp + 7) / 8 - (k + 7) / 8), hi := hi } := by
  have : ¬ ((k + 7) / 8 > (bp + 7) / 8) := by omega
  simp [seekBack, this]

theorem skipBits_ok (B : Buf) (n bp hi : Nat) (h : bp + n ≤ 8 * B.len) :
    skipBits B n { bp := bp, hi := hi } = .ok { bp := bp + n, hi := max hi ((bp + n + 7) / 8) } := by
  simp [skipBits, readBits, h]

end Adsb
