/-! # Result type of the model: value, library error, or Rust panic -/

/-- `u32::MAX` (a notation, so that the arithmetic tactics see the literal) -/
notation "u32Max" => (4294967295 : Nat)

namespace Adsb

/-- The classes of `DekuError` the decoder can return. -/
inductive Err where
  | incomplete | parse | assertion | io
  deriving Repr, DecidableEq

def Err.name : Err → String
  | .incomplete => "Incomplete" | .parse => "Parse" | .assertion => "Assertion" | .io => "Io"

/-- `panic site` stands for a Rust panic (overflow check, index, unwrap) at `site`. -/
inductive Res (α : Type) where
  | ok : α → Res α
  | err : Err → Res α
  | panic : String → Res α
  deriving Repr

@[inline] def Res.bind {α β} (x : Res α) (f : α → Res β) : Res β :=
  match x with
  | .ok a => f a
  | .err e => .err e
  | .panic s => .panic s

instance : Monad Res where
  pure := .ok
  bind := Res.bind

/- The bind lemmas are deliberately *not* proved by `rfl`: as `rfl`-lemmas `simp` would apply them by
definitional unfolding, and the kernel then re-checks every step by unfolding whole decoder terms
(measured: 40 s for one 20-field reader instead of 0.2 s). -/
@[simp] theorem Res.ok_bind {α β} (a : α) (f : α → Res β) : (Res.ok a >>= f) = f a := by
  cases h : f a <;> (show Res.bind (Res.ok a) f = _; unfold Res.bind; exact h)
@[simp] theorem Res.err_bind {α β} (e : Err) (f : α → Res β) : ((Res.err e : Res α) >>= f) = .err e := by
  cases e <;> (show Res.bind (Res.err _) f = _; unfold Res.bind; rfl)
@[simp] theorem Res.panic_bind {α β} (s : String) (f : α → Res β) : ((Res.panic s : Res α) >>= f) = .panic s := by
  show Res.bind (Res.panic s) f = _; unfold Res.bind; exact Eq.refl _
@[simp] theorem Res.pure_eq {α} (a : α) : (pure a : Res α) = .ok a := by
  cases h : (pure a : Res α) <;> first | exact (by cases h; rfl) | exact absurd h (by intro h'; cases h')

theorem Res.pure_bind {α β} (a : α) (f : α → Res β) : (pure a >>= f) = f a := by rw [Res.pure_eq, Res.ok_bind]

theorem Res.bind_assoc {α β γ} (x : Res α) (g : α → Res β) (f : β → Res γ) : (x >>= g) >>= f = x >>= fun a => g a >>= f := by
  cases x with
  | ok a => rw [Res.ok_bind, Res.ok_bind]
  | err e => rw [Res.err_bind, Res.err_bind, Res.err_bind]
  | panic p => rw [Res.panic_bind, Res.panic_bind, Res.panic_bind]

theorem Res.ite_bind {α β} (c : Prop) [Decidable c] (x y : Res α) (f : α → Res β) :
    (if c then x else y) >>= f = if c then x >>= f else y >>= f := by
  split <;> rfl

def Res.isOk {α} : Res α → Bool | .ok _ => true | _ => false
def Res.isPanic {α} : Res α → Bool | .panic _ => true | _ => false

/-- `P` holds of the value, if there is one -/
def Res.All {α} (P : α → Prop) : Res α → Prop
  | .ok a => P a
  | _ => True

def Res.NoPanic {α} : Res α → Prop
  | .panic _ => False
  | _ => True

theorem Res.All_ok {α} {P : α → Prop} {x : Res α} {a : α} (h : Res.All P x) (e : x = .ok a) : P a := by
  subst e; exact h

theorem Res.bind_eq_ok {α β} {x : Res α} {f : α → Res β} {b : β} (h : (x >>= f) = .ok b) :
    ∃ a, x = .ok a ∧ f a = .ok b := by
  cases x with
  | ok a => rw [Res.ok_bind] at h; exact ⟨a, rfl, h⟩
  | err e => rw [Res.err_bind] at h; cases h
  | panic p => rw [Res.panic_bind] at h; cases h

/-! ## `All` and `NoPanic` along a `do` block

The `_iff` lemmas are rewrite rules: a `simp only` with them walks a whole reader. The rules `All.bind` and `NoPanic.bind`
carry a fact `Q` about the intermediate value from one step of a sequence to the next. -/

theorem Res.All_bind_iff {α β} {P : β → Prop} (x : Res α) (f : α → Res β) :
    Res.All P (x >>= f) ↔ ∀ a, x = .ok a → Res.All P (f a) := by
  cases x with
  | ok a => rw [Res.ok_bind]; exact ⟨fun h b hb => by cases hb; exact h, fun h => h a rfl⟩
  | err e => rw [Res.err_bind]; exact ⟨fun _ _ h => (nomatch h), fun _ => trivial⟩
  | panic p => rw [Res.panic_bind]; exact ⟨fun _ _ h => (nomatch h), fun _ => trivial⟩

theorem Res.All_ite_iff {α} {P : α → Prop} (c : Prop) [Decidable c] (x y : Res α) :
    Res.All P (if c then x else y) ↔ (c → Res.All P x) ∧ (¬ c → Res.All P y) := by
  split <;> simp [*]

theorem Res.All_pure_iff {α} {P : α → Prop} (a : α) : Res.All P (pure a) ↔ P a := by rw [Res.pure_eq]; rfl
theorem Res.All_err {α} {P : α → Prop} (e : Err) : Res.All P (Res.err e) ↔ True := Iff.rfl

theorem Res.All.imp {α} {P Q : α → Prop} {x : Res α} (h : ∀ a, P a → Q a) (hx : x.All P) : x.All Q := by
  cases x <;> first | exact h _ hx | trivial

theorem Res.All.bind {α β} {x : Res α} {f : α → Res β} {Q : α → Prop} {P : β → Prop} (hx : x.All Q)
    (h : ∀ a, Q a → (f a).All P) : (x >>= f).All P :=
  (Res.All_bind_iff x f).mpr fun a e => h a (Res.All_ok hx e)

theorem Res.All_of_forall {α} {P : α → Prop} {x : Res α} (h : ∀ a, P a) : x.All P := by
  cases x <;> first | exact h _ | trivial

/-- a fact that the first step of a block establishes holds of the whole block -/
theorem Res.All_bind_const {α β} {p : Prop} {x : Res α} (hx : x.All fun _ => p) (f : α → Res β) : (x >>= f).All fun _ => p :=
  hx.bind fun _ h => Res.All_of_forall fun _ => h

theorem Res.NoPanic_bind_iff {α β} (x : Res α) (f : α → Res β) :
    (x >>= f).NoPanic ↔ x.NoPanic ∧ ∀ a, x = .ok a → (f a).NoPanic := by
  cases x with
  | ok a => rw [Res.ok_bind]; exact ⟨fun h => ⟨trivial, fun b hb => by cases hb; exact h⟩, fun h => h.2 a rfl⟩
  | err e => rw [Res.err_bind]; exact ⟨fun _ => ⟨trivial, fun _ h => nomatch h⟩, fun _ => trivial⟩
  | panic p => rw [Res.panic_bind]; exact ⟨fun h => h.elim, fun h => h.1⟩

theorem Res.NoPanic_ite_iff {α} (c : Prop) [Decidable c] (x y : Res α) :
    (if c then x else y).NoPanic ↔ if c then x.NoPanic else y.NoPanic := by
  split <;> rfl

theorem Res.NoPanic_pure {α} (a : α) : (pure a : Res α).NoPanic := by rw [Res.pure_eq]; trivial
theorem Res.NoPanic_ok {α} (a : α) : (Res.ok a).NoPanic := trivial
theorem Res.NoPanic_err {α} (e : Err) : (Res.err e : Res α).NoPanic := trivial

theorem Res.NoPanic.bind {α β} {x : Res α} {f : α → Res β} {Q : α → Prop} (hx : x.NoPanic) (hq : x.All Q)
    (h : ∀ a, Q a → (f a).NoPanic) : (x >>= f).NoPanic :=
  (Res.NoPanic_bind_iff x f).mpr ⟨hx, fun a e => h a (Res.All_ok hq e)⟩

theorem ite_ind {α} {P : α → Prop} {c : Prop} [Decidable c] {a b : α} (ha : P a) (hb : P b) : P (if c then a else b) := by
  split
  · exact ha
  · exact hb

/-- two `if`s on the same condition, branch by branch -/
theorem ite_ind₂ {α β} {P : α → β → Prop} {c : Prop} [Decidable c] {a a' : α} {b b' : β}
    (h1 : c → P a b) (h2 : ¬ c → P a' b') : P (if c then a else a') (if c then b else b') := by
  split
  · exact h1 ‹_›
  · exact h2 ‹_›

theorem fun_ite {α β} (c : Prop) [Decidable c] (f g : α → β) : (fun s => if c then f s else g s) = if c then f else g := by
  split <;> rfl

/-! ## `Safe`: both at once, for code with guarded panics -/

section
variable {α β : Type} {pre pre' : Prop} {P P' : α → Prop} {Q : β → Prop} {x y : Res α} {c : Prop} [Decidable c]

/-- `x` does not panic when `pre` holds, and a value it returns satisfies `P` (with or without `pre`) -/
def Res.Safe (pre : Prop) (P : α → Prop) (x : Res α) : Prop := x.All P ∧ (pre → x.NoPanic)

theorem Res.Safe.ok {a : α} (h : P a) : Res.Safe pre P (.ok a) := ⟨h, fun _ => trivial⟩

theorem Res.Safe.ite (hx : Res.Safe pre P x) (hy : Res.Safe pre P y) : Res.Safe pre P (if c then x else y) := ite_ind hx hy

/-- a guarded panic: the precondition refutes the guard -/
theorem Res.Safe.guard {s : String} (hc : pre → ¬ c) (hy : Res.Safe pre P y) : Res.Safe pre P (if c then .panic s else y) :=
  ⟨ite_ind trivial hy.1, fun hp => by rw [if_neg (hc hp)]; exact hy.2 hp⟩

theorem Res.Safe.bind {f : α → Res β} (hx : Res.Safe pre P x) (h : ∀ a, P a → Res.Safe pre Q (f a)) : Res.Safe pre Q (x >>= f) :=
  ⟨hx.1.bind fun a p => (h a p).1, fun hp => (hx.2 hp).bind hx.1 fun a p => (h a p).2 hp⟩

theorem Res.Safe.imp (h : Res.Safe pre P x) (hp : pre' → pre) (hP : ∀ a, P a → P' a) : Res.Safe pre' P' x :=
  ⟨h.1.imp hP, fun x => h.2 (hp x)⟩
end

/-! ## the `u32` counters (`incrCount` of the tracker, `totalIncr` of the statistics tab) -/

theorem satIncr_spec (n : Nat) (h : n ≤ u32Max) : ∃ m, (Res.ok (min (n + 1) u32Max) : Res Nat) = .ok m ∧ m ≤ u32Max ∧ n ≤ m :=
  ⟨_, rfl, Nat.min_le_right _ _, by omega⟩

theorem incr_below (s : String) (n : Nat) (h : n < u32Max) :
    (Res.ok (min (n + 1) u32Max) : Res Nat) = .ok (n + 1) ∧ (if n + 1 > u32Max then Res.panic s else .ok (n + 1)) = .ok (n + 1) :=
  ⟨by rw [Nat.min_eq_left h], if_neg (by omega)⟩

end Adsb
